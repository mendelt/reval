import RevalModel.Props.C01
import RevalModel.Props.C02
import RevalModel.Props.C03
import RevalModel.Props.C04
import RevalModel.Props.C05
import RevalModel.Props.C06
import RevalModel.Props.C07
import RevalModel.Props.C08
import RevalModel.Props.C09
import RevalModel.Props.C10
import RevalModel.Props.C11
import RevalModel.Props.C12
import RevalModel.Props.C13
import RevalModel.Props.C14
import RevalModel.Props.C15
import RevalModel.Props.C16
import RevalModel.Props.C17
import RevalModel.Props.C18
import RevalModel.Props.C19
