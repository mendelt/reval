/-
  Props/C13.lean — serializing input data into a Value is total and faithful.
  (`Ser.serialize` transcribes `ValueSerializer` over the serde data model; the theorems below are the
  features of a "structurally faithful image" the property lists.  The serde_json clause is `ser_matches_json`:
  `Spec/Json.lean` models `serde_json::to_value` on the data model and the JSON reading of a `Value`; both are
  compared with the real `serde_json` on every case of the correspondence run.)
-/
import RevalModel.Lemmas.Json
import RevalModel.Lemmas.SerRange

namespace Reval.C13
open Ser

/-- never a panic, for every value of the data model (including failing `Serialize` impls): the model of the serializer has
    no panic site of its own, its `.panic` arms only pass one on -/
theorem ser_total_all :
    (∀ v, (serialize v).isPanic = false) ∧
    (∀ fs acc, (serializeFields fs acc).isPanic = false) ∧
    (∀ kvs acc, (serializeEntries kvs acc).isPanic = false) ∧
    (∀ xs, (serializeList xs).isPanic = false) := by
  apply serialize.mutual_induct
  all_goals intros
  -- every arm by unfolding, as in `serialize_inRange_all` (Lemmas/SerRange.lean)
  all_goals simp_all [serialize, serializeList, serializeFields, serializeEntries, keyString_ne_panic, Res.isPanic_map]

theorem ser_total (v : SerVal) : (serialize v).isPanic = false := ser_total_all.1 v

/-- integers keep their exact numeric value, or the call fails: it never yields another number -/
theorem int_exact (k : IntKind) (n : Int) :
    serialize (.int k n) = (if I128.inRange n then .ok (.int n) else .err .numericOverflow) := by
  simp [serialize]

/-- read from the image: an integer that serializes at all serializes to itself -/
theorem never_alters_a_number (k : IntKind) (n : Int) (v : Value) (h : serialize (.int k n) = .ok v) : v = .int n := by
  simp only [serialize] at h; split at h <;> simp_all

/-- a u128 above i128::MAX is an error (it is not wrapped to a negative Int) -/
theorem u128_out_of_range_is_error (n : Int) (h : n > I128.max) : serialize (.int IntKind.u128 n) = .err .numericOverflow := by
  have : I128.inRange n = false := Bool.eq_false_iff.2 fun hr => by
    rw [I128.inRange_iff] at hr; unfold I128.max at h; omega
  simp [serialize, this]

/-- booleans, f64 floats and strings are unchanged; a char is the one-character string -/
theorem scalars_unchanged (b : Bool) (f : F64) (s : Str) (c : Char) :
    serialize (.bool b) = .ok (.bool b) ∧ serialize (.f64 f) = .ok (.float f) ∧
    serialize (.str s) = .ok (.str s) ∧ serialize (.char c) = .ok (.str [c]) := by
  simp [serialize]

/-- options collapse to the inner value or None; unit and unit structs are None -/
theorem option_collapses (v : SerVal) (name : Str) :
    serialize (.some v) = serialize v ∧ serialize .none = .ok .none ∧
    serialize .unit = .ok .none ∧ serialize (.unitStruct name) = .ok .none ∧
    serialize (.newtypeStruct name v) = serialize v := by
  simp [serialize]

theorem serializeList_cons_ok (x : SerVal) (xs : List SerVal) (vs : List Value) :
    serializeList (x :: xs) = .ok vs ↔ ∃ v vs', serialize x = .ok v ∧ serializeList xs = .ok vs' ∧ vs = v :: vs' := by
  simp only [serializeList]
  cases serialize x <;> cases serializeList xs <;> simp [eq_comm]

theorem serializeFields_cons_ok (k : Str) (v : SerVal) (rest : List (Str × SerVal)) (acc m : List (Str × Value)) :
    serializeFields ((k, v) :: rest) acc = .ok m ↔
      ∃ x, serialize v = .ok x ∧ serializeFields rest (insertSorted k x acc) = .ok m := by
  simp only [serializeFields]
  cases serialize v <;> simp

/-- sequences and tuples keep their length and order: item `i` of the image is the image of item `i` -/
theorem seq_order : ∀ (xs : List SerVal) (vs : List Value), serializeList xs = .ok vs →
    vs.length = xs.length ∧ ∀ i (h : i < xs.length) (h' : i < vs.length), serialize xs[i] = .ok vs[i] := by
  intro xs
  induction xs with
  | nil => intro vs h; simp [serializeList] at h; subst h; simp
  | cons x xs ih =>
    intro vs h
    obtain ⟨v, vs', hv, hvs, rfl⟩ := (serializeList_cons_ok x xs vs).1 h
    have := ih vs' hvs
    refine ⟨by simp [this.1], fun i h1 h2 => ?_⟩
    cases i with
    | zero => exact hv
    | succ j => exact this.2 j (Nat.lt_of_succ_lt_succ h1) (Nat.lt_of_succ_lt_succ h2)

/-- sequences, tuples and tuple structs serialize as the list of their items -/
theorem seq_is_list (xs : List SerVal) (name : Str) :
    serialize (.seq xs) = (serializeList xs).map .vec ∧ serialize (.tuple xs) = (serializeList xs).map .vec ∧
    serialize (.tupleStruct name xs) = (serializeList xs).map .vec := by
  simp [serialize]

/-- enum variants are tagged by name: a one-entry map from the variant name to the payload's image -/
theorem variant_tagged (name variant : Str) (v : SerVal) (x : Value) (xs : List SerVal) (fs : List (Str × SerVal))
    (h : serialize v = .ok x) :
    serialize (.unitVariant name variant) = .ok (.str variant) ∧
    serialize (.newtypeVariant name variant v) = .ok (.map [(variant, x)]) ∧
    serialize (.tupleVariant name variant xs) = (serializeList xs).map (fun vs => .map [(variant, .vec vs)]) ∧
    serialize (.structVariant name variant fs) = (serializeFields fs []).map (fun m => .map [(variant, .map m)]) := by
  simp [serialize, h]

/-- structs keep every entry: after serialising the fields the image maps each field name to the image of
    the (last) field of that name, and names not among the fields are untouched -/
theorem struct_keeps_entries : ∀ (fs : List (Str × SerVal)) (acc m : List (Str × Value)),
    serializeFields fs acc = .ok m →
    ∀ k, lookup m k =
      match fs.reverse.find? (fun kv => kv.1 = k) with
      | some kv => (match serialize kv.2 with | .ok x => some x | _ => none)
      | none => lookup acc k := by
  intro fs
  induction fs with
  | nil => intro acc m h k; simp [serializeFields] at h; subst h; simp
  | cons f fs ih =>
    intro acc m h k
    obtain ⟨x, hx, h⟩ := (serializeFields_cons_ok f.1 f.2 fs acc m).1 h
    rw [ih _ m h k, List.reverse_cons, List.find?_append, lookup_insertSorted]
    cases fs.reverse.find? (fun kv => kv.1 = k) <;> by_cases hk : f.1 = k <;> simp [hk, hx]

/-- a first map key that is not a string is an error — it is not stringified -/
theorem nonstring_key_is_error (k v : SerVal) (rest : List (SerVal × SerVal)) (hk : ∀ s, k ≠ .str s) :
    ∃ msg, serialize (.map ((k, v) :: rest)) = .err (.ser msg) := by
  cases k <;> simp_all [serialize, serializeEntries, keyString, Res.map]

/-- one step of a string-keyed map: the entry's image goes into the accumulator by `BTreeMap::insert` (sorted, a later equal
    key wins), and the rest follows -/
theorem map_entry_step (ks : Str) (v : SerVal) (x : Value) (rest : List (SerVal × SerVal)) (acc : List (Str × Value))
    (h : serialize v = .ok x) :
    serializeEntries ((.str ks, v) :: rest) acc = serializeEntries rest (insertSorted ks x acc) := by
  simp [serializeEntries, keyString, h]

theorem serializeList_first_error (x : SerVal) (post : List SerVal) (e : Err) (hx : serialize x = .err e) :
    ∀ (pre : List SerVal) (vs : List Value), serializeList pre = .ok vs → serializeList (pre ++ x :: post) = .err e
  | [], _, _ => by simp [serializeList, hx]
  | p :: ps, vs, hpre => by
    obtain ⟨v, vs', hv, hvs, rfl⟩ := (serializeList_cons_ok p ps vs).1 hpre
    simp [serializeList, hv, serializeList_first_error x post e hx ps vs' hvs]

/-- a failure raised by the value's own `Serialize` impl is the error of the whole call: at the top, under `Some`, under a
    newtype variant, and as an item of a sequence after items that serialize (any failing item: `serializeList_first_error`) -/
theorem inner_failure_propagates (msg : Str) (name variant : Str) (pre post : List SerVal) (vs : List Value)
    (hpre : serializeList pre = .ok vs) :
    serialize (.fail msg) = .err (.ser msg) ∧
    serialize (.some (.fail msg)) = .err (.ser msg) ∧
    serialize (.newtypeVariant name variant (.fail msg)) = .err (.ser msg) ∧
    serializeList (pre ++ .fail msg :: post) = .err (.ser msg) :=
  ⟨by simp [serialize], by simp [serialize], by simp [serialize],
    serializeList_first_error _ post _ (by simp [serialize]) pre vs hpre⟩

/-- `evaluate(&T)` = serialize, then `evaluate_value` on the image; it fails only when the input cannot be
    serialized (C09's last clause) -/
theorem evaluate_factors (env : Env) (rules : List Expr) (input : SerVal) :
    (∀ facts, serialize input = .ok facts →
      evaluate env rules input = .ok (evaluateValue { env with facts := facts } rules)) ∧
    (∀ e, serialize input = .err e → evaluate env rules input = .err e) ∧
    (∀ e, evaluate env rules input = .err e → serialize input = .err e) := by
  refine ⟨fun facts h => by simp [evaluate, h], fun e h => by simp [evaluate, h], ?_⟩
  intro e h
  simp only [evaluate] at h
  split at h <;> simp_all

/-- **the serde_json clause**: whenever serialization succeeds on JSON-representable data (finite floats, integers
    within 64 bits, at every depth), the image read as JSON is exactly `serde_json`'s image of the same data -/
theorem ser_matches_json (v : SerVal) (x : Value) (h : serialize v = .ok x) (hr : JsonSpec.JsonRep v = true) :
    JsonSpec.jsonOf v = JsonSpec.toJson x := (JsonSpec.json_all.1 v hr).of_eq h

/-- the serde_json clause for sequences, element by element -/
theorem ser_matches_json_list (xs : List SerVal) (vs : List Value) (h : serializeList xs = .ok vs)
    (hr : JsonSpec.JsonRepList xs = true) : JsonSpec.jsonOfList xs = JsonSpec.toJsonList vs :=
  (JsonSpec.json_all.2.2.2 xs hr).of_eq h

/-- the image never holds a number outside the range of its `Value` variant, at every depth -/
theorem image_in_range (v : SerVal) (x : Value) (hb : v.bytesOK = true) (h : Ser.serialize v = .ok x) :
    x.inRange = true := serialize_inRange hb h

/-- neither does any outcome of `RuleSet::evaluate(&T)` computed from the image (C13 composed with C01's
    `results_in_range`) -/
theorem evaluate_outcomes_in_range (env : Env) (he : env.InRange) (rules : List Expr) (input : SerVal)
    (hb : input.bytesOK = true) (hl : ∀ e ∈ rules, e.litsInRange = true)
    (out : List (Res Value) × St × List Event) (h : evaluate env rules input = .ok out) :
    ∀ r ∈ out.1, ∀ v, r = .ok v → v.inRange = true := evaluate_inRange he rules input hb hl h

/-! non-vacuity -/
example : JsonSpec.JsonRep (.structVariant ['E'] ['V'] [(['b'], .int IntKind.u8 2), (['a'], .some (.seq [.bool true, .none]))]) = true ∧
    JsonSpec.jsonOf (.structVariant ['E'] ['V'] [(['b'], .int IntKind.u8 2), (['a'], .some (.seq [.bool true, .none]))]) =
      .obj [(['V'], .obj [(['a'], .arr [.bool true, .null]), (['b'], .int 2)])] := ⟨rfl, rfl⟩
example : serialize (.structVariant ['E'] ['V'] [(['b'], .int IntKind.u8 2), (['a'], .some (.seq [.bool true, .none]))])
    = .ok (.map [(['V'], .map [(['a'], .vec [.bool true, .none]), (['b'], .int 2)])]) := by decide
example : serialize (.map [(.int IntKind.u8 1, .unit)]) = .err (.ser []) := by decide
example : serialize (.int IntKind.u128 (2 ^ 128 - 1)) = .err .numericOverflow := by decide
example : (SerVal.struct "S".toList [("a".toList, .int IntKind.u64 (2 ^ 64 - 1)), ("b".toList, .bytes [0, 255])]).bytesOK = true := by decide

end Reval.C13
