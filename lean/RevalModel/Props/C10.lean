/-
  Props/C10.lean — names and access paths resolve to exactly the addressed data.
-/
import RevalModel.Lemmas.Resolve
import RevalModel.Lemmas.Sorted

namespace Reval.C10

/-- an identifier is the input's top-level field of exactly that name (`=` on strings: case-sensitive);
    `facts` is the whole input; an unknown field is an error naming it; a non-map input is a type error -/
theorem ref_exact (env : Env) (rp : List Nat) (n : Str) (st : St) :
    eval env rp (.ref n) st =
      (if n = "facts".toList then .ok env.facts
       else match env.facts with
         | .map m => (match lookup m n with | some v => .ok v | none => .err (.unknownRef n))
         | _ => .err .invalidType,
       st, []) := by
  simp only [eval, reference]
  split
  · rfl
  · cases env.facts with
    | map m => cases lookup m n <;> rfl
    | _ => rfl

/-- `:name` is the symbol registered under exactly that name; an unknown symbol is an error naming it -/
theorem symbol_exact (env : Env) (rp : List Nat) (n : Str) (st : St) :
    eval env rp (.sym n) st =
      (match lookup env.symbols n with | some v => .ok v | none => .err (.invalidSymbol n), st, []) := by
  simp only [eval, symbol]; cases lookup env.symbols n <;> rfl

/-- an unknown function is an error naming it (and nothing is invoked) -/
theorem unknown_function_names_it (env : Env) (f : Str) (a : Value) (st : St) (h : lookup env.fns f = none) :
    callFn env f a st = (.err (.unknownFn f), st, []) := by
  simp [callFn, h]

/-- lookup returns only what is stored under exactly that key — never data from a different key … -/
theorem lookup_sound {α} (m : List (Str × α)) (k : Str) (v : α) (h : lookup m k = some v) : (k, v) ∈ m :=
  lookup_mem m k v h

/-- … and with distinct keys (a BTreeMap) it returns exactly the entry of that key; absent ⇔ no such key -/
theorem lookup_exact {α} (m : List (Str × α)) (k : Str) (v : α) (hn : (m.map Prod.fst).Nodup) :
    (lookup m k = some v ↔ (k, v) ∈ m) ∧ (lookup m k = none ↔ k ∉ m.map Prod.fst) :=
  ⟨Reval.lookup_exact m k v hn, lookup_none_iff m k⟩

/-- one step: exact key / exact position; None for absent, out of range, or a step into None; a type error
    for a step into a scalar or of the wrong kind for the container -/
theorem step_exact (m : List (Str × Value)) (xs : List Value) (k : Str) (n : Nat) (v : Value) :
    Impl.index (.map m) (.key k) = .ok ((lookup m k).getD .none) ∧
    Impl.index (.vec xs) (.pos n) = .ok ((xs[n]?).getD .none) ∧
    Impl.index .none (.key k) = .ok .none ∧ Impl.index .none (.pos n) = .ok .none ∧
    Impl.index (.map m) (.pos n) = .err .invalidType ∧ Impl.index (.vec xs) (.key k) = .err .invalidType ∧
    (v.ty ≠ .map → v.ty ≠ .vec → v.ty ≠ .none →
      Impl.index v (.key k) = .err .invalidType ∧ Impl.index v (.pos n) = .err .invalidType) := by
  refine ⟨rfl, rfl, rfl, rfl, rfl, rfl, ?_⟩
  cases v <;> simp [Impl.index, Value.ty]

/-- a chain of `.field` / `.index` steps evaluates to exactly the nested element the steps address -/
theorem path_resolves (env : Env) (steps : List Index) (rp : List Nat) (base : Expr) (st : St) :
    eval env rp (pathExpr base steps) st =
      match eval env (List.replicate steps.length 0 ++ rp) base st with
      | (.ok v, st1, ev) => (resolve v steps, st1, ev)
      | other => other := Reval.path_resolves env steps rp base st

/-- `base.s₁.s₂` addresses, inside what `base.s₁` addresses, exactly what `s₂` addresses there; an error on the way is
    final -/
theorem path_composes (v : Value) (s1 s2 : List Index) :
    resolve v (s1 ++ s2) = match resolve v s1 with
      | .ok w => resolve w s2
      | other => other := resolve_append v s1 s2

/-- every path from None ends in None — a step into None never fails and never yields data from elsewhere -/
theorem path_from_none_is_none (steps : List Index) : resolve .none steps = .ok .none := resolve_none steps

/-- a non-empty path into a scalar is a type error, whatever its steps are -/
theorem path_into_scalar_fails (v : Value) (i : Index) (rest : List Index)
    (hm : v.ty ≠ .map) (hv : v.ty ≠ .vec) (hn : v.ty ≠ .none) :
    resolve v (i :: rest) = .err .invalidType := resolve_scalar v i rest hm hv hn

/-- a path that leaves the data (absent key, position out of range) yields None from there on, never an
    error and never a neighbouring element -/
theorem path_past_the_data (m : List (Str × Value)) (xs : List Value) (k : Str) (n : Nat) (rest : List Index)
    (hk : lookup m k = none) (hn : xs.length ≤ n) :
    resolve (.map m) (.key k :: rest) = .ok .none ∧ resolve (.vec xs) (.pos n :: rest) = .ok .none := by
  constructor
  · simp [resolve, resolveStep, hk, resolve_none]
  · simp [resolve, resolveStep, List.getElem?_eq_none hn, resolve_none]

/-- the parser's left-nested index nodes and the list of steps are the same thing, so `path_resolves` / `path_composes`
    speak about every way of splitting a path -/
theorem pathExpr_append (base : Expr) (s1 s2 : List Index) :
    pathExpr base (s1 ++ s2) = pathExpr (pathExpr base s1) s2 := by
  induction s1 generalizing base with
  | nil => rfl
  | cons i rest ih => simp only [List.cons_append, pathExpr]; exact ih _

def demoFacts : Value :=
  .map [(['A'], .int 1), (['a'], .vec [.int 10, .map [(['b'], .str ['x'])]]), ("facts".toList, .int 2)]
example : (eval ⟨demoFacts, [], [], Oracle.empty⟩ [] (pathExpr (.ref ['a']) [.pos 1, .key ['b']]) St.init).1 = .ok (.str ['x']) := by decide
example : (eval ⟨demoFacts, [], [], Oracle.empty⟩ [] (pathExpr (.ref ['a']) [.pos 2, .key ['b']]) St.init).1 = .ok .none := by decide
example : (eval ⟨demoFacts, [], [], Oracle.empty⟩ [] (.ref ['b']) St.init).1 = .err (.unknownRef ['b']) := by decide
example : (eval ⟨demoFacts, [], [], Oracle.empty⟩ [] (.ref "facts".toList) St.init).1 = .ok demoFacts := by decide

example : resolve demoFacts [.key ['a'], .pos 1, .key ['b']] = .ok (.str ['x']) := by decide
example : resolve demoFacts [.key ['A'], .pos 0] = .err .invalidType := by decide
example : resolve demoFacts [.key ['a'], .pos 7, .key ['b'], .pos 3] = .ok .none := by decide

end Reval.C10
