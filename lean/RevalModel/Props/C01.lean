/-
  Props/C01.lean — Evaluation always returns a value or an error, never a panic; a numeric, date or
  duration result outside the range of its type is an error, never wrapped / saturated / truncated.
  Arithmetic is over unbounded `Int`.
-/
import RevalModel.Lemmas.InRange
import RevalModel.Lemmas.Exact
import RevalModel.Lemmas.DecExact

namespace Reval.C01

/-- every expression, input, environment (functions, symbols, oracle answers) and starting cache: never a panic -/
theorem eval_never_panics (env : Env) (rp : List Nat) (e : Expr) (st : St) :
    (eval env rp e st).1.isPanic = false := eval_noPanic env rp e st

theorem evaluateExpr_never_panics (o : Oracle) (e : Expr) (facts : Value) :
    (evaluateExpr o e facts).isPanic = false := eval_noPanic _ _ _ _

theorem operators_never_panic (o : Oracle) :
    (∀ op v, (applyUn o op v).isPanic = false) ∧ (∀ op a b, (applyBin o op a b).isPanic = false) :=
  ⟨applyUn_noPanic o, applyBin_noPanic o⟩

/-- Int `+ − × unary-minus`: the mathematical result when it is an i128, otherwise an *error* -/
theorem int_arith_exact (o : Oracle) (a b : Int) :
    applyBin o .add (.int a) (.int b) = (if I128.inRange (a + b) then .ok (.int (a + b)) else .err (.outOfBounds (.int a))) ∧
    applyBin o .sub (.int a) (.int b) = (if I128.inRange (a - b) then .ok (.int (a - b)) else .err (.outOfBounds (.int a))) ∧
    applyBin o .mult (.int a) (.int b) = (if I128.inRange (a * b) then .ok (.int (a * b)) else .err (.outOfBounds (.int a))) ∧
    applyUn o .neg (.int a) = (if I128.inRange (-a) then .ok (.int (-a)) else .err (.outOfBounds (.int a))) :=
  ⟨ofOpt_checked .., ofOpt_checked .., ofOpt_checked .., ofOpt_checked ..⟩

/-- Int `/ %`: truncated quotient / remainder; a zero divisor and `MIN / -1` are errors -/
theorem int_div_rem_exact (o : Oracle) (a b : Int) :
    applyBin o .div (.int a) (.int b) = (if b = 0 ∨ (a = I128.min ∧ b = -1) then .err .divByZero else .ok (.int (Int.tdiv a b))) ∧
    applyBin o .rem (.int a) (.int b) = (if b = 0 ∨ (a = I128.min ∧ b = -1) then .err .divByZero else .ok (.int (Int.tmod a b))) :=
  ⟨ofOpt_checkedDiv .., ofOpt_checkedRem ..⟩

/-- casts: `int(Float)` truncates exactly or fails (NaN, ±inf, beyond i128); `dec(Int)` is exact or fails -/
theorem casts_exact (o : Oracle) (f : F64) (n : Int) :
    applyUn o .toInt (.float f) =
      (match F64.truncToInt f with
       | some k => if I128.inRange k then .ok (.int k) else .err (.invalidCast (.float f))
       | none => .err (.invalidCast (.float f))) ∧
    applyUn o .toDec (.int n) =
      (if n.natAbs ≤ Dec.maxMant then .ok (.dec ⟨decide (n < 0), n.natAbs, 0⟩) else .err (.invalidCast (.int n))) :=
  ⟨rfl, by simp only [applyUn, Impl.toDec, Dec.ofInt]; split <;> simp_all⟩

/-- time constructors from an Int: exactly that many units, or an error — never `n mod 2^64` -/
theorem time_constructors_exact (o : Oracle) (i : Int) :
    applyUn o .dateTime (.int i) = (if Time.dtInRange (i * Time.nsPerSec) then .ok (.dateTime (i * Time.nsPerSec)) else .err (.invalidCast (.int i))) ∧
    applyUn o .duration (.int i) = (if Time.durInRange (i * Time.nsPerSec) then .ok (.duration (i * Time.nsPerSec)) else .err (.invalidCast (.int i))) ∧
    applyUn o .week (.int i) = (if Time.durInRange (i * 604800 * Time.nsPerSec) then .ok (.duration (i * 604800 * Time.nsPerSec)) else .err (.outOfBounds (.int i))) ∧
    applyUn o .day (.int i) = (if Time.durInRange (i * 86400 * Time.nsPerSec) then .ok (.duration (i * 86400 * Time.nsPerSec)) else .err (.outOfBounds (.int i))) ∧
    applyUn o .hour (.int i) = (if Time.durInRange (i * 3600 * Time.nsPerSec) then .ok (.duration (i * 3600 * Time.nsPerSec)) else .err (.outOfBounds (.int i))) ∧
    applyUn o .minute (.int i) = (if Time.durInRange (i * 60 * Time.nsPerSec) then .ok (.duration (i * 60 * Time.nsPerSec)) else .err (.outOfBounds (.int i))) ∧
    applyUn o .second (.int i) = (if Time.durInRange (i * 1 * Time.nsPerSec) then .ok (.duration (i * 1 * Time.nsPerSec)) else .err (.outOfBounds (.int i))) :=
  ⟨guarded_exact (fun h => I64.inRange_of_ns (.inr h)) .., guarded_exact (fun h => I64.inRange_of_ns (.inl h)) ..,
   mkDuration_exact (by decide) .., mkDuration_exact (by decide) .., mkDuration_exact (by decide) ..,
   mkDuration_exact (by decide) .., mkDuration_exact (by decide) ..⟩

/-- date/time arithmetic: exact, or an error when the result is not representable -/
theorem time_arith_exact (o : Oracle) (a b : Int) :
    applyBin o .add (.dateTime a) (.duration b) = (if Time.dtInRange (a + b) then .ok (.dateTime (a + b)) else .err (.outOfBounds (.dateTime a))) ∧
    applyBin o .sub (.dateTime a) (.duration b) = (if Time.dtInRange (a - b) then .ok (.dateTime (a - b)) else .err (.outOfBounds (.dateTime a))) ∧
    applyBin o .sub (.duration a) (.duration b) = (if Time.durInRange (a - b) then .ok (.duration (a - b)) else .err (.outOfBounds (.duration a))) ∧
    (Time.dtInRange a = true → Time.dtInRange b = true →
      applyBin o .sub (.dateTime a) (.dateTime b) = .ok (.duration (a - b)) ∧ Time.durInRange (a - b) = true) :=
  ⟨rfl, rfl, rfl, fun ha hb => ⟨rfl, dt_sub_dt_inRange a b ha hb⟩⟩

/-- whatever an evaluation returns is representable — every Int at every depth an i128, every Decimal a 96-bit mantissa
    with scale ≤ 28, every DateTime / Duration within chrono's bounds — provided the literals, the input, the symbols,
    the user functions' results and the oracle's answers are Rust values; from every starting cache -/
theorem results_in_range (env : Env) (he : env.InRange) (rp : List Nat) (e : Expr) (st : St)
    (hl : e.litsInRange = true) (hs : st.InRange) (v : Value) (h : (eval env rp e st).1 = .ok v) :
    v.inRange = true := (eval_inRange he rp e st hl hs).1.of_eq h

theorem evaluateExpr_in_range (o : Oracle) (ho : o.InRange) (e : Expr) (facts : Value)
    (hf : facts.inRange = true) (hl : e.litsInRange = true) (v : Value) (h : evaluateExpr o e facts = .ok v) :
    v.inRange = true :=
  (eval_inRange (env := ⟨facts, [], [], o⟩) ⟨hf, by simp [lookup], by simp [lookup], ho⟩ [] e St.init hl
    St.init_inRange).1.of_eq h

/-- the same for every outcome of `RuleSet::evaluate_value` (one cache threaded through all rules) -/
theorem ruleset_results_in_range (env : Env) (he : env.InRange) (rules : List Expr)
    (hl : ∀ e ∈ rules, e.litsInRange = true) :
    ∀ r ∈ (evaluateValue env rules).1, ∀ v, r = .ok v → v.inRange = true :=
  evalRules_inRange he rules 0 St.init hl St.init_inRange

/-- the operators alone: in-range operands never give an out-of-range value -/
theorem operators_stay_in_range (o : Oracle) (ho : o.InRange) :
    (∀ op v r, v.inRange = true → applyUn o op v = .ok r → r.inRange = true) ∧
    (∀ op a b r, a.inRange = true → b.inRange = true → applyBin o op a b = .ok r → r.inRange = true) :=
  ⟨fun _ _ _ hv h => applyUn_inRange ho hv h, fun _ _ _ _ ha hb h => applyBin_inRange ho ha hb h⟩

/-- Decimal `+` and `×` (non-zero operands), about `Dec.add` / `Dec.mul`: the exact result rounded half-even at the finest
    scale at which its mantissa fits 96 bits, overflow only when not even the rounding to an integer fits; and for `+ − ×` an
    overflow is an *error* of the operator -/
theorem decimal_arith_rounded_or_error (o : Oracle) (a b : Dec) (ha : a.mant ≠ 0) (hb : b.mant ≠ 0) :
    (match Dec.add a b with
      | .val d =>
          d.scale ≤ Dec.sumScale a b ∧ d.mant ≤ Dec.maxMant ∧ d.neg = decide (Dec.sumNum a b.neg b < 0) ∧
          d.mant = Dec.rhe (Dec.sumNum a b.neg b).natAbs (10 ^ (Dec.sumScale a b - d.scale)) ∧
          2 * ((d.mant : Int) * (10 ^ (Dec.sumScale a b - d.scale) : Nat) - (Dec.sumNum a b.neg b).natAbs).natAbs
            ≤ 10 ^ (Dec.sumScale a b - d.scale) ∧
          ∀ sc', d.scale < sc' → sc' ≤ Dec.sumScale a b →
            Dec.maxMant < Dec.rhe (Dec.sumNum a b.neg b).natAbs (10 ^ (Dec.sumScale a b - sc'))
      | .overflow => ∀ sc', sc' ≤ Dec.sumScale a b →
            Dec.maxMant < Dec.rhe (Dec.sumNum a b.neg b).natAbs (10 ^ (Dec.sumScale a b - sc'))
      | .unknown => ∃ sc, sc ≤ Dec.sumScale a b ∧
            Dec.rhe (Dec.sumNum a b.neg b).natAbs (10 ^ (Dec.sumScale a b - sc)) = 0) ∧
    (match Dec.mul a b with
      | .val d =>
          d.scale ≤ a.scale + b.scale ∧ d.scale ≤ 28 ∧ d.mant ≤ Dec.maxMant ∧ d.neg = (a.neg != b.neg) ∧
          d.mant = Dec.rhe (a.mant * b.mant) (10 ^ (a.scale + b.scale - d.scale)) ∧
          2 * ((d.mant : Int) * (10 ^ (a.scale + b.scale - d.scale) : Nat) - (a.mant * b.mant : Nat)).natAbs
            ≤ 10 ^ (a.scale + b.scale - d.scale) ∧
          ∀ sc', d.scale < sc' → sc' ≤ a.scale + b.scale → sc' ≤ 28 →
            Dec.maxMant < Dec.rhe (a.mant * b.mant) (10 ^ (a.scale + b.scale - sc'))
      | .overflow => ∀ sc', sc' ≤ a.scale + b.scale → sc' ≤ 28 →
            Dec.maxMant < Dec.rhe (a.mant * b.mant) (10 ^ (a.scale + b.scale - sc'))
      | .unknown => ∃ sc, sc ≤ 28 ∧ Dec.rhe (a.mant * b.mant) (10 ^ (a.scale + b.scale - sc)) = 0) ∧
    (Dec.add a b = .overflow → applyBin o .add (.dec a) (.dec b) = .err (.outOfBounds (.dec a))) ∧
    (Dec.sub a b = .overflow → applyBin o .sub (.dec a) (.dec b) = .err (.outOfBounds (.dec a))) ∧
    (Dec.mul a b = .overflow → applyBin o .mult (.dec a) (.dec b) = .err (.outOfBounds (.dec a))) :=
  ⟨Dec.addSigned_spec a b.neg b ha hb,
   by
    -- `Dec.Fitted` from scale `min (a.scale + b.scale) 28`, with the minimum written as two bounds
    have h := Dec.mul_spec a b ha hb
    split <;> rename_i heq <;> rw [heq] at h <;> simp only [Dec.Fitted, Nat.le_min] at h
    · exact ⟨h.1.1, h.1.2, h.2.1, h.2.2.1, h.2.2.2.1, h.2.2.2.2.1, fun sc' h1 h2 h3 => h.2.2.2.2.2 sc' h1 ⟨h2, h3⟩⟩
    · exact fun sc' h1 h2 => h sc' ⟨h1, h2⟩
    · obtain ⟨sc, h1, h2⟩ := h; exact ⟨sc, h1.2, h2⟩,
   fun h => by simp [applyBin, Impl.add, Impl.decOut, h],
   fun h => by simp [applyBin, Impl.sub, Impl.decOut, h],
   fun h => by simp [applyBin, Impl.mult, Impl.decOut, h]⟩

/-- when the exact sum / difference / product is representable at the operands' scale, it IS the result -/
theorem decimal_arith_exact_when_representable (o : Oracle) (a b : Dec) (ha : a.mant ≠ 0) (hb : b.mant ≠ 0) :
    (Dec.sumNum a b.neg b ≠ 0 → (Dec.sumNum a b.neg b).natAbs ≤ Dec.maxMant →
      applyBin o .add (.dec a) (.dec b) =
        .ok (.dec ⟨decide (Dec.sumNum a b.neg b < 0), (Dec.sumNum a b.neg b).natAbs, Dec.sumScale a b⟩)) ∧
    (Dec.sumNum a (!b.neg) b ≠ 0 → (Dec.sumNum a (!b.neg) b).natAbs ≤ Dec.maxMant →
      applyBin o .sub (.dec a) (.dec b) =
        .ok (.dec ⟨decide (Dec.sumNum a (!b.neg) b < 0), (Dec.sumNum a (!b.neg) b).natAbs, Dec.sumScale a b⟩)) ∧
    (a.scale + b.scale ≤ 28 → a.mant * b.mant ≤ Dec.maxMant →
      applyBin o .mult (.dec a) (.dec b) = .ok (.dec ⟨a.neg != b.neg, a.mant * b.mant, a.scale + b.scale⟩)) :=
  ⟨fun hz hf => by simp [applyBin, Impl.add, Impl.decOut, Dec.add, Dec.addSigned_exact_when_fits a b.neg b ha hb hz hf],
   fun hz hf => by simp [applyBin, Impl.sub, Impl.decOut, Dec.sub, Dec.addSigned_exact_when_fits a (!b.neg) b ha hb hz hf],
   fun hs hf => by simp [applyBin, Impl.mult, Impl.decOut, Dec.mul_exact_when_fits a b ha hb hs hf]⟩

/-! non-vacuity: the hypotheses are satisfiable (empty oracle, extreme operands), and the conclusion is not
    trivial (`Value.inRange` is false of what a wrapped / unchecked result would be) -/
example : Oracle.empty.InRange := by intro op args v h; simp [Oracle.empty] at h
example : (Value.vec [.int I128.max, .dec ⟨true, Dec.maxMant, 28⟩, .dateTime Time.dtMax, .duration (-Time.durMax)]).inRange = true := by decide
example : (Value.int (I128.max + 1)).inRange = false := by decide
example : (Value.vec [.dec ⟨false, 2 ^ 96, 0⟩]).inRange = false := by decide
example : (Value.map [("k".toList, .duration (Time.durMax + 1))]).inRange = false := by decide

/-! non-vacuity: the inputs that panicked / wrapped / saturated before the `fix:` commits are errors -/
example : applyBin Oracle.empty .add (.int I128.max) (.int 1) = .err (.outOfBounds (.int I128.max)) := by decide
example : applyUn Oracle.empty .neg (.int I128.min) = .err (.outOfBounds (.int I128.min)) := by decide
example : applyUn Oracle.empty .toDec (.int (2 ^ 96)) = .err (.invalidCast (.int (2 ^ 96))) := by decide
example : applyUn Oracle.empty .week (.int (2 ^ 64)) = .err (.outOfBounds (.int (2 ^ 64))) := by decide
-- 2^133, beyond i128
example : applyUn Oracle.empty .toInt (.float ⟨0x4840000000000000⟩) = .err (.invalidCast (.float ⟨0x4840000000000000⟩)) := by decide
example : applyBin Oracle.empty .add (.dateTime Time.dtMax) (.duration 1) = .err (.outOfBounds (.dateTime Time.dtMax)) := by decide
example : applyBin Oracle.empty .add (.int 2) (.int 3) = .ok (.int 5) := by decide
-- d79228162514264337593543950335 + d1 is an error; … + d0.4 rounds (half-even) back to the maximum; 1.5 × 2.5 = 3.75
example : applyBin Oracle.empty .add (.dec ⟨false, Dec.maxMant, 0⟩) (.dec ⟨false, 1, 0⟩)
    = .err (.outOfBounds (.dec ⟨false, Dec.maxMant, 0⟩)) := by decide
example : applyBin Oracle.empty .add (.dec ⟨false, Dec.maxMant, 0⟩) (.dec ⟨false, 4, 1⟩)
    = .ok (.dec ⟨false, Dec.maxMant, 0⟩) := by decide
example : applyBin Oracle.empty .mult (.dec ⟨false, 15, 1⟩) (.dec ⟨true, 25, 1⟩) = .ok (.dec ⟨true, 375, 2⟩) := by decide

end Reval.C01
