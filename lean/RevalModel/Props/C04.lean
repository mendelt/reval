/-
  Props/C04.lean — None operands propagate through operators instead of failing.
-/
import RevalModel.Lemmas.NoneType
import RevalModel.Lemmas.Denote
import RevalModel.Lemmas.Resolve

namespace Reval.C04

def propagating : List BinOp := [.mult, .div, .rem, .add, .sub, .bitAnd, .bitOr, .bitXor]
def ordering : List BinOp := [.gt, .gte, .lt, .lte]

/-- arithmetic and bitwise operators: None in either position gives None — whatever the other operand is -/
theorem none_arith (o : Oracle) (op : BinOp) (h : op ∈ propagating) (v : Value) :
    applyBin o op .none v = .ok .none ∧ applyBin o op v .none = .ok .none := by
  have := applyBin_none o op v
  rw [(by decide : ∀ op ∈ propagating, op.noneRule = .propagate) op h] at this
  exact ⟨this.1, this.2 nofun⟩

/-- ordering comparisons: None in either position gives false -/
theorem none_cmp (o : Oracle) (op : BinOp) (h : op ∈ ordering) (v : Value) :
    applyBin o op .none v = .ok (.bool false) ∧ applyBin o op v .none = .ok (.bool false) := by
  have := applyBin_none o op v
  rw [(by decide : ∀ op ∈ ordering, op.noneRule = .isFalse) op h] at this
  exact ⟨this.1, this.2 nofun⟩

/-- the arm-order fact: a None operand is never a type error for these operators, even when the other
    operand alone would be one -/
theorem none_beats_type_error (o : Oracle) (op : BinOp) (h : op ∈ propagating ++ ordering) (v : Value) :
    applyBin o op .none v ≠ .err .invalidType ∧ applyBin o op v .none ≠ .err .invalidType := by
  rcases List.mem_append.1 h with h | h
  · have := none_arith o op h v; simp [this.1, this.2]
  · have := none_cmp o op h v; simp [this.1, this.2]

/-- every unary operator and built-in except the None tests returns None for None -/
theorem none_unary (o : Oracle) (op : UnOp) (h : op ≠ .some ∧ op ≠ .isNone) : applyUn o op .none = .ok .none := by
  cases op
  case some => exact absurd rfl h.1
  case isNone => exact absurd rfl h.2
  all_goals rfl

theorem none_tests (o : Oracle) : applyUn o .some .none = .ok (.bool false) ∧ applyUn o .isNone .none = .ok (.bool true) :=
  ⟨rfl, rfl⟩

/-- equality with a None left operand is false — and the right operand is not evaluated (state and
    history are those after the left operand); the same statement as `C05.lazy_eq_none` -/
theorem none_eq_left (env : Env) (rp : List Nat) (l r : Expr) (st st1 : St) (ev : List Event)
    (h : eval env (0 :: rp) l st = (.ok .none, st1, ev)) :
    eval env rp (.eq l r) st = (.ok (.bool false), st1, ev) ∧
    eval env rp (.neq l r) st = (.ok (.bool true), st1, ev) := by
  simp [eval, h]

/-- between literals: equality with a None right operand is false, inequality true (for any operands: `eval_eq_ok` with
    `peq_diff_ty`; None against None by the above) -/
theorem none_eq_right (env : Env) (rp : List Nat) (a : Value) (st : St) (ha : a ≠ .none) :
    eval env rp (.eq (.lit a) (.lit .none)) st = (.ok (.bool false), st, []) ∧
    eval env rp (.neq (.lit a) (.lit .none)) st = (.ok (.bool true), st, []) := by
  simpa [peq_diff_ty a .none fun e => ha ((ty_none_iff a).1 e)] using eval_eq_ok env rp _ _ a .none st st st [] [] (eval_lit ..) ha (eval_lit ..)

/-- indexing into None gives None (conjuncts 3–4 of `C10.step_exact`) -/
theorem index_none (i : Index) : Impl.index .none i = .ok .none := by
  cases i <;> rfl

/-- … and so does any access path once its base is None: `a.b.3.c` is None, with the state and history of evaluating
    the base -/
theorem none_through_any_path (env : Env) (rp : List Nat) (base : Expr) (steps : List Index) (st st1 : St) (ev : List Event)
    (h : eval env (List.replicate steps.length 0 ++ rp) base st = (.ok .none, st1, ev)) :
    eval env rp (pathExpr base steps) st = (.ok .none, st1, ev) := by
  rw [path_resolves, h]; simp [resolve_none]

/-- membership in a None collection is false -/
theorem contains_none_coll (o : Oracle) (v : Value) : applyBin o .contains .none v = .ok (.bool false) :=
  (applyBin_none o .contains v).1

/-- exception 1: a literal None as condition, or as left operand of `and` / `or`, is a type error (any such operand:
    `eval_ite_nonbool`, `eval_nonbool_left`) -/
theorem cond_none_is_type_error (env : Env) (rp : List Nat) (t e r : Expr) (st : St) :
    eval env rp (.ite (.lit .none) t e) st = (.err .invalidType, st, []) ∧
    eval env rp (.and (.lit .none) r) st = (.err .invalidType, st, []) ∧
    eval env rp (.or (.lit .none) r) st = (.err .invalidType, st, []) :=
  ⟨eval_ite_nonbool env rp _ t e st st [] .none (eval_lit ..) nofun,
   eval_nonbool_left env rp _ r st st [] .none (eval_lit ..) nofun⟩

/-- exception 2: a None *item* follows the ordinary rule of the collection's type -/
theorem contains_none_item_ordinary (o : Oracle) (xs : List Value) (m : List (Str × Value)) (s : Str) (n : Int) :
    applyBin o .contains (.vec xs) .none = .ok (.bool (xs.any (fun y => Value.peq y .none))) ∧
    applyBin o .contains (.map m) .none = .err .invalidType ∧
    applyBin o .contains (.str s) .none = .err .invalidType ∧
    applyBin o .contains (.int n) .none = .err .invalidType :=
  ⟨rfl, rfl, rfl, rfl⟩

example : applyBin Oracle.empty .add .none (.str ['x']) = .ok .none := by decide
example : applyBin Oracle.empty .gt (.vec []) .none = .ok (.bool false) := by decide
example : applyBin Oracle.empty .contains (.vec [.none]) .none = .ok (.bool true) := by decide

/-- a position under None-propagating operators: a unary operator or built-in other than the None tests, either
    operand of an arithmetic / bitwise operator, the base of a `.field` / `.index` step -/
inductive NCtx where
  | hole
  | un (op : UnOp) (c : NCtx)
  | binL (op : BinOp) (c : NCtx) (r : Expr)
  | binR (op : BinOp) (l : Expr) (c : NCtx)
  | index (c : NCtx) (i : Index)

def NCtx.fill : NCtx → Expr → Expr
  | .hole, e => e
  | .un op c, e => .un op (c.fill e)
  | .binL op c r, e => .bin op (c.fill e) r
  | .binR op l c, e => .bin op l (c.fill e)
  | .index c i, e => .index (c.fill e) i

/-- every operator on the way is a propagating one, and every sibling operand evaluates to a value -/
def NCtx.Ok (env : Env) : NCtx → Prop
  | .hole => True
  | .un op c => op ≠ .some ∧ op ≠ .isNone ∧ c.Ok env
  | .binL op c r => op ∈ propagating ∧ (∃ v, denote env r = .ok v) ∧ c.Ok env
  | .binR op l c => op ∈ propagating ∧ (∃ v, denote env l = .ok v) ∧ c.Ok env
  | .index c _ => c.Ok env

/-- a sub-expression that is None makes the whole expression None, however many propagating operators, built-ins and
    access steps stand above it, whatever the sibling operands (even ones that alone would be a type error) -/
theorem none_propagates_deep (env : Env) (e : Expr) (h : denote env e = .ok .none) :
    ∀ c : NCtx, c.Ok env → denote env (c.fill e) = .ok .none := by
  intro c
  induction c with
  | hole => intro _; exact h
  | un op c ih =>
    intro ⟨h1, h2, hc⟩
    simp only [NCtx.fill, denote, ih hc, ← applyUn_eq_table]
    exact none_unary env.oracle op ⟨h1, h2⟩
  | binL op c r ih =>
    intro ⟨hp, ⟨v, hv⟩, hc⟩
    simp only [NCtx.fill, denote, ih hc, hv, ← applyBin_eq_table]
    exact (none_arith env.oracle op hp v).1
  | binR op l c ih =>
    intro ⟨hp, ⟨v, hv⟩, hc⟩
    simp only [NCtx.fill, denote, ih hc, hv, ← applyBin_eq_table]
    exact (none_arith env.oracle op hp v).2
  | index c i ih =>
    intro hc
    simp only [NCtx.fill, denote, ih hc]
    exact index_none i

/-- … and that is what evaluation returns (deterministic functions, any cache state consistent with them) -/
theorem eval_none_propagates_deep (env : Env) (hd : Deterministic env) (rp : List Nat) (st : St) (hc : Consistent env st)
    (e : Expr) (h : denote env e = .ok .none) (c : NCtx) (hok : c.Ok env) :
    (eval env rp (c.fill e) st).1 = .ok .none := by
  rw [(eval_denote env hd rp _ st hc).1]; exact none_propagates_deep env e h c hok

/-- a missing field four operators deep: `round(-(a.b.c + "x")) * [i1]` on `{a: {}}` is None -/
example : (eval ⟨.map [(['a'], .map [])], [], [], Oracle.empty⟩ []
    ((NCtx.binL .mult (.un .round (.un .neg (.binL .add (.index .hole (.key ['c'])) (.lit (.str ['x']))))) (.vec [.lit (.int 1)])).fill
      (.index (.ref ['a']) (.key ['b']))) St.init).1 = .ok .none := by decide
end Reval.C04
