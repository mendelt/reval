/-
  Props/C02.lean — every operator and built-in yields what the operator table defines; a composite
  expression evaluates to the composition of its sub-results.  Most of the file says what cells of the table compute, as
  mathematics (calendar, Decimal order and rounding, bitwise, strings, `==`, casts).
-/
import RevalModel.Lemmas.Table
import RevalModel.Lemmas.NoneType
import RevalModel.Lemmas.Calendar
import RevalModel.Lemmas.IntTime
import RevalModel.Lemmas.Exact
import RevalModel.Lemmas.Strings
import RevalModel.Lemmas.Equality

namespace Reval.C02

/-- the implementation-shaped binary operators ARE the table (Spec/OperatorTable.lean) -/
theorem applyBin_eq_table (o : Oracle) (op : BinOp) (a b : Value) : applyBin o op a b = tableBin o op a b :=
  Reval.applyBin_eq_table o op a b

theorem applyUn_eq_table (o : Oracle) (op : UnOp) (v : Value) : applyUn o op v = tableUn o op v :=
  Reval.applyUn_eq_table o op v

/-- comparisons follow the natural order: `> ≥ < ≤` on Int, one instance each for DateTime and Duration (Decimals:
    `decimal_order`) -/
theorem cmp_natural_order (o : Oracle) (a b : Int) :
    applyBin o .gt (.int a) (.int b) = .ok (.bool (decide (a > b))) ∧
    applyBin o .gte (.int a) (.int b) = .ok (.bool (decide (a ≥ b))) ∧
    applyBin o .lt (.int a) (.int b) = .ok (.bool (decide (a < b))) ∧
    applyBin o .lte (.int a) (.int b) = .ok (.bool (decide (a ≤ b))) ∧
    applyBin o .gt (.dateTime a) (.dateTime b) = .ok (.bool (decide (a > b))) ∧
    applyBin o .lte (.duration a) (.duration b) = .ok (.bool (decide (a ≤ b))) :=
  ⟨rfl, rfl, rfl, rfl, rfl, rfl⟩

/-- bitwise operators on Int are the two's-complement ones; `contains` on Ints is the flag test -/
theorem bitwise_int (o : Oracle) (a b : Int) :
    applyBin o .bitAnd (.int a) (.int b) = .ok (.int (I128.land a b)) ∧
    applyBin o .bitOr (.int a) (.int b) = .ok (.int (I128.lor a b)) ∧
    applyBin o .bitXor (.int a) (.int b) = .ok (.int (I128.xor a b)) ∧
    applyBin o .contains (.int a) (.int b) = .ok (.bool (I128.land a b != 0)) :=
  ⟨rfl, rfl, rfl, rfl⟩

/-- `& | ^` on Ints act bit by bit on the 128-bit two's-complement patterns (and an in-range Int is its pattern) -/
theorem bitwise_bit_by_bit (a b : Int) (i : Nat) :
    I128.bit (I128.land a b) i = (I128.bit a i && I128.bit b i) ∧
    I128.bit (I128.lor a b) i = (I128.bit a i || I128.bit b i) ∧
    I128.bit (I128.xor a b) i = (I128.bit a i != I128.bit b i) ∧
    (I128.inRange a = true → I128.ofU (I128.toU a) = a) :=
  ⟨I128.land_bit a b i, I128.lor_bit a b i, I128.xor_bit a b i, fun h => I128.ofU_toU h⟩

/-- Decimal comparisons are the order of the values `num / 10^scale`, whatever the scales (`d1.0 ≤ d1.00 ≤ d1.0`) -/
theorem decimal_order (o : Oracle) (a b : Dec) :
    applyBin o .lt (.dec a) (.dec b) = .ok (.bool (decide (a.num * 10 ^ b.scale < b.num * 10 ^ a.scale))) ∧
    applyBin o .lte (.dec a) (.dec b) = .ok (.bool (decide (a.num * 10 ^ b.scale ≤ b.num * 10 ^ a.scale))) ∧
    applyBin o .gt (.dec a) (.dec b) = .ok (.bool (decide (b.num * 10 ^ a.scale < a.num * 10 ^ b.scale))) ∧
    applyBin o .gte (.dec a) (.dec b) = .ok (.bool (decide (b.num * 10 ^ a.scale ≤ a.num * 10 ^ b.scale))) ∧
    (Value.peq (.dec a) (.dec b) = true ↔ a.num * 10 ^ b.scale = b.num * 10 ^ a.scale) := by
  simp only [applyBin, Impl.lt, Impl.lte, Impl.gt, Impl.gte, Dec.lt_cross, Dec.le_cross, Value.peq,
    Dec.eqNum_iff_cross, and_self]

/-- `floor`, `round`, `fract` of a Decimal, whenever the model predicts them (a zero result is left to the library):
    the greatest integer not above the value; a nearest integer, the even one on a tie; the fractional digits -/
theorem decimal_rounding (d r : Dec) :
    (Dec.floor d = .val r → r.scale = 0 ∧ r.num * 10 ^ d.scale ≤ d.num ∧ d.num < (r.num + 1) * 10 ^ d.scale) ∧
    (Dec.round d = .val r → r.scale = 0 ∧ r.neg = d.neg ∧
       2 * ((r.mant : Int) * (10 ^ d.scale : Nat) - d.mant).natAbs ≤ 10 ^ d.scale ∧
       (2 * (d.mant % 10 ^ d.scale) = 10 ^ d.scale → r.mant % 2 = 0)) ∧
    (Dec.fract d = .val r → r.scale = d.scale ∧ r.neg = d.neg ∧ r.mant = d.mant % 10 ^ d.scale ∧
       d.mant = (d.mant / 10 ^ d.scale) * 10 ^ d.scale + r.mant) :=
  ⟨Dec.floor_spec, Dec.round_spec, Dec.fract_spec⟩

/-- a span built from `i` weeks / days / hours / minutes / seconds reads back as exactly `i` of them -/
theorem duration_units_roundtrip (o : Oracle) (i : Int) (v : Value) :
    (applyUn o .week (.int i) = .ok v → applyUn o .week v = .ok (.int i)) ∧
    (applyUn o .day (.int i) = .ok v → applyUn o .day v = .ok (.int i)) ∧
    (applyUn o .hour (.int i) = .ok v → applyUn o .hour v = .ok (.int i)) ∧
    (applyUn o .minute (.int i) = .ok v → applyUn o .minute v = .ok (.int i)) ∧
    (applyUn o .second (.int i) = .ok v → applyUn o .second v = .ok (.int i)) := by
  refine ⟨?_, ?_, ?_, ?_, ?_⟩ <;> intro h <;> obtain ⟨d, rfl, hd⟩ := mkDuration_roundtrip (by decide) h <;>
    exact congrArg (fun n => Res.ok (Value.int n)) hd

/-- membership: map key, list member (by `==`), substring -/
theorem contains_semantics (o : Oracle) (m : List (Str × Value)) (k : Str) (xs : List Value) (x : Value) (s t : Str) :
    applyBin o .contains (.map m) (.str k) = .ok (.bool (lookup m k).isSome) ∧
    applyBin o .contains (.vec xs) x = .ok (.bool (xs.any (fun y => Value.peq y x))) ∧
    applyBin o .contains (.str s) (.str t) = .ok (.bool (Str.isInfix t s)) := by
  simp [applyBin, Impl.contains]

/-- the calendar built-ins: for EVERY date y-m-d of the proleptic Gregorian calendar (any year) and every time of
    day h:mi:s.ns, `year … second` of that instant return exactly y, m, d, h, mi, s -/
theorem calendar_parts_exact (o : Oracle) (y m d h mi s ns : Int) (hv : Time.ValidDate y m d)
    (hh : 0 ≤ h ∧ h ≤ 23) (hmi : 0 ≤ mi ∧ mi ≤ 59) (hs : 0 ≤ s ∧ s ≤ 59) (hns : 0 ≤ ns ∧ ns ≤ 999999999) :
    let t := (Time.daysFromCivil y m d * 86400 + h * 3600 + mi * 60 + s) * Time.nsPerSec + ns
    applyUn o .year (.dateTime t) = .ok (.int y) ∧ applyUn o .month (.dateTime t) = .ok (.int m) ∧
    applyUn o .day (.dateTime t) = .ok (.int d) ∧ applyUn o .hour (.dateTime t) = .ok (.int h) ∧
    applyUn o .minute (.dateTime t) = .ok (.int mi) ∧ applyUn o .second (.dateTime t) = .ok (.int s) := by
  intro t
  have hp := Time.timeOfDay_parts (Time.daysFromCivil y m d) h mi s ns hh hmi hs hns
  have hc := Time.civil_of_valid hv
  simp only [applyUn, Impl.year, Impl.month, Impl.day, Impl.hour, Impl.minute, Impl.second, Time.year, Time.month,
    Time.day]
  rw [hp.1, hc]
  exact ⟨rfl, rfl, rfl, by rw [hp.2.1], by rw [hp.2.2.1], by rw [hp.2.2.2]⟩

/-- conversely, for EVERY instant: `year`, `month`, `day` return a date of the calendar, `hour`, `minute`, `second` a time of
    day, and the instant lies in that second of that day -/
theorem calendar_parts_total (o : Oracle) (t : Int) :
    ∃ y m d h mi s, Time.ValidDate y m d ∧ (0 ≤ h ∧ h ≤ 23) ∧ (0 ≤ mi ∧ mi ≤ 59) ∧ (0 ≤ s ∧ s ≤ 59) ∧
      Time.secsOf t = Time.daysFromCivil y m d * 86400 + h * 3600 + mi * 60 + s ∧
      applyUn o .year (.dateTime t) = .ok (.int y) ∧ applyUn o .month (.dateTime t) = .ok (.int m) ∧
      applyUn o .day (.dateTime t) = .ok (.int d) ∧ applyUn o .hour (.dateTime t) = .ok (.int h) ∧
      applyUn o .minute (.dateTime t) = .ok (.int mi) ∧ applyUn o .second (.dateTime t) = .ok (.int s) := by
  obtain ⟨hv, hinv⟩ := Time.civil_valid_and_inverse (Time.secsOf t / 86400)
  obtain ⟨hh, hm, hs, hsum⟩ := Time.timeOfDay_total t
  exact ⟨Time.year t, Time.month t, Time.day t, Time.hour t, Time.minute t, Time.second t, hv, hh, hm, hs,
    by unfold Time.year Time.month Time.day; rw [hinv]; exact hsum, rfl, rfl, rfl, rfl, rfl, rfl⟩

/-- the day count IS the calendar: day 0 is 1970-01-01, consecutive dates have consecutive numbers, every integer is the
    number of a date -/
theorem day_count_is_consecutive :
    Time.daysFromCivil 1970 1 1 = 0 ∧
    (∀ y m d, Time.daysFromCivil y m (d + 1) = Time.daysFromCivil y m d + 1) ∧
    (∀ y m, 1 ≤ m ∧ m ≤ 11 → Time.daysFromCivil y (m + 1) 1 = Time.daysFromCivil y m (Time.lastDay y m) + 1) ∧
    (∀ y, Time.daysFromCivil (y + 1) 1 1 = Time.daysFromCivil y 12 31 + 1) ∧
    (∀ n, ∃ y m d, Time.ValidDate y m d ∧ Time.daysFromCivil y m d = n) :=
  ⟨Time.daysFromCivil_epoch, Time.daysFromCivil_next_day, Time.daysFromCivil_next_month, Time.daysFromCivil_next_year,
   Time.exists_date⟩

/-! composition: a strict node's result is the operator applied to its children's results, evaluated left
    to right with the state threaded; an error in a child is the node's result -/

theorem un_composes (env : Env) (rp : List Nat) (op : UnOp) (e : Expr) (st st1 : St) (v : Value) (ev : List Event)
    (h : eval env (0 :: rp) e st = (.ok v, st1, ev)) :
    eval env rp (.un op e) st = (tableUn env.oracle op v, st1, ev) := by
  simp [eval, h, Reval.applyUn_eq_table]

theorem bin_composes (env : Env) (rp : List Nat) (op : BinOp) (l r : Expr) (st st1 st2 : St) (a b : Value)
    (ev ev2 : List Event)
    (hl : eval env (0 :: rp) l st = (.ok a, st1, ev)) (hr : eval env (1 :: rp) r st1 = (.ok b, st2, ev2)) :
    eval env rp (.bin op l r) st = (tableBin env.oracle op a b, st2, ev ++ ev2) := by
  simp [eval, hl, hr, Reval.applyBin_eq_table]

theorem index_composes (env : Env) (rp : List Nat) (i : Index) (e : Expr) (st st1 : St) (v : Value) (ev : List Event)
    (h : eval env (0 :: rp) e st = (.ok v, st1, ev)) :
    eval env rp (.index e i) st = (Impl.index v i, st1, ev) := by
  simp [eval, h]

/-- `==` and `!=` on evaluated operands (`eval_eq_ok` of Lemmas/NoneType.lean).  `ha`: when the left operand is None, `eval`
    answers `false` (`true` for `!=`) without evaluating the right operand at all -/
theorem eq_composes (env : Env) (rp : List Nat) (l r : Expr) (st st1 st2 : St) (a b : Value) (ev ev2 : List Event)
    (ha : a ≠ .none)
    (hl : eval env (0 :: rp) l st = (.ok a, st1, ev)) (hr : eval env (1 :: rp) r st1 = (.ok b, st2, ev2)) :
    eval env rp (.eq l r) st = (.ok (.bool (Value.peq a b)), st2, ev ++ ev2) ∧
    eval env rp (.neq l r) st = (.ok (.bool (!Value.peq a b)), st2, ev ++ ev2) :=
  eval_eq_ok env rp l r a b st st1 st2 ev ev2 hl ha hr

/-- `contains` on two strings: true exactly when the right operand occurs in the left one as a contiguous piece, false
    exactly when it does not -/
theorem string_contains_is_substring (o : Oracle) (s t : Str) :
    (applyBin o .contains (.str s) (.str t) = .ok (.bool true) ↔ ∃ pre post, s = pre ++ t ++ post) ∧
    (applyBin o .contains (.str s) (.str t) = .ok (.bool false) ↔ ¬ ∃ pre post, s = pre ++ t ++ post) := by
  rw [(contains_semantics o [] [] [] .none s t).2.2, ← Str.isInfix_iff]
  cases Str.isInfix t s <;> simp

/-- `trim` returns the middle: what is cut off on either side is Unicode White_Space only, and the result neither starts
    nor ends with white space -/
theorem trim_is_the_middle (o : Oracle) (s : Str) : ∃ l m r, s = l ++ m ++ r ∧
    applyUn o .trim (.str s) = .ok (.str m) ∧ l.all Str.isWhite = true ∧ r.all Str.isWhite = true ∧
    (∀ c u, m = c :: u → Str.isWhite c = false) ∧ (∀ c, m.getLast? = some c → Str.isWhite c = false) := by
  obtain ⟨l, r, h1, h2, h3, h4, h5⟩ := Str.trim_spec s
  exact ⟨l, Str.trim s, r, h1, by simp [applyUn, Impl.trim], h2, h3, h4, h5⟩

/-- trimming a trimmed string changes nothing -/
theorem trim_idempotent (o : Oracle) (s m : Str) (h : applyUn o .trim (.str s) = .ok (.str m)) :
    applyUn o .trim (.str m) = .ok (.str m) := by
  simp only [applyUn, Impl.trim, Res.ok.injEq, Value.str.injEq] at h ⊢
  rw [← h]; exact Str.trim_idempotent s

/-- `int("…")` succeeds exactly on an optional sign and at least one ASCII digit, nothing else, denoting a number within
    i128, and yields it; every other string is an invalid-cast error carrying the string -/
theorem int_of_string_exact (o : Oracle) (s : Str) :
    (∀ n, applyUn o .toInt (.str s) = .ok (.int n) ↔
      ∃ (neg : Bool) (ds : Str), (s = ds ∧ neg = false ∨ s = '+' :: ds ∧ neg = false ∨ s = '-' :: ds ∧ neg = true) ∧
        ds ≠ [] ∧ ds.all Str.isDigit = true ∧ n = (if neg then -(Str.ofDigits ds : Int) else (Str.ofDigits ds : Int)) ∧
        I128.inRange n = true) ∧
    ((∀ n, applyUn o .toInt (.str s) ≠ .ok (.int n)) → applyUn o .toInt (.str s) = .err (.invalidCast (.str s))) := by
  constructor
  · intro n
    rw [← parseI128_spec]
    simp only [applyUn, Impl.toInt]
    cases Str.parseI128 s <;> simp
  · intro h
    simp only [applyUn, Impl.toInt] at h ⊢
    cases hp : Str.parseI128 s with
    | none => rfl
    | some n => rw [hp] at h; exact absurd rfl (h n)

/-- `==` on values without a Float inside is reflexive and symmetric (a Float compares by IEEE: NaN ≠ NaN) -/
theorem eq_reflexive_symmetric_without_floats (a b : Value) (ha : a.noFloat = true) :
    Value.peq a a = true ∧ Value.peq a b = Value.peq b a :=
  ⟨peq_refl a ha, peq_symm a b ha⟩

/-- on values built from strings, integers, booleans, instants, spans and None, `==` is identity -/
theorem eq_is_identity_on_exact_values (a b : Value) (ha : a.exact = true) (hb : b.exact = true) :
    Value.peq a b = true ↔ a = b :=
  peq_iff_eq a b ha hb

/-- `int(decimal)` truncates toward zero: `num = k·10^scale + r` with `|r| < 10^scale` and `r` of the sign of `num` -/
theorem int_of_decimal_truncates (o : Oracle) (d : Dec) : ∃ k r : Int,
    applyUn o .toInt (.dec d) = .ok (.int k) ∧ d.num = k * 10 ^ d.scale + r ∧ r.natAbs < 10 ^ d.scale ∧
    ((0 ≤ d.num ∧ 0 ≤ r) ∨ (d.num ≤ 0 ∧ r ≤ 0)) := by
  refine ⟨Int.tdiv d.num (10 ^ d.scale), Int.tmod d.num (10 ^ d.scale), by simp [applyUn, Impl.toInt, Dec.toInt], ?_, ?_, ?_⟩
  · have := Int.mul_tdiv_add_tmod d.num (10 ^ d.scale)
    rw [Int.mul_comm] at this; exact this.symm
  · rw [Int.natAbs_tmod, Int.natAbs_pow]
    exact Nat.mod_lt _ (Nat.pow_pos (by decide))
  · exact tmod_sign _ _

/-- `week(d)` … `second(d)`: the number of WHOLE units in the span, truncated toward zero (−90 minutes has −1 hours): one
    division of the nanosecond count -/
theorem duration_unit_counts_truncate (o : Oracle) (ns : Int) :
    applyUn o .week (.duration ns) = .ok (.int (Int.tdiv ns (Time.nsPerSec * 604800))) ∧
    applyUn o .day (.duration ns) = .ok (.int (Int.tdiv ns (Time.nsPerSec * 86400))) ∧
    applyUn o .hour (.duration ns) = .ok (.int (Int.tdiv ns (Time.nsPerSec * 3600))) ∧
    applyUn o .minute (.duration ns) = .ok (.int (Int.tdiv ns (Time.nsPerSec * 60))) ∧
    applyUn o .second (.duration ns) = .ok (.int (Int.tdiv ns Time.nsPerSec)) := by
  refine ⟨?_, ?_, ?_, ?_, by simp [applyUn, Impl.second, Time.numUnits, Time.numSeconds]⟩ <;>
    simp only [applyUn, Impl.week, Impl.day, Impl.hour, Impl.minute, Time.numUnits_eq]

/-- on ASCII text `uppercase` / `lowercase` map character by character, keep the length, are idempotent and undo each
    other up to case -/
theorem ascii_case_mapping (o : Oracle) (s : Str) (h : Str.isAscii s = true) :
    applyUn o .upper (.str s) = .ok (.str (s.map Str.asciiUpper)) ∧
    applyUn o .lower (.str s) = .ok (.str (s.map Str.asciiLower)) ∧
    applyUn o .upper (.str (s.map Str.asciiUpper)) = .ok (.str (s.map Str.asciiUpper)) ∧
    applyUn o .lower (.str (s.map Str.asciiLower)) = .ok (.str (s.map Str.asciiLower)) ∧
    applyUn o .lower (.str (s.map Str.asciiUpper)) = .ok (.str (s.map Str.asciiLower)) ∧
    applyUn o .upper (.str (s.map Str.asciiLower)) = .ok (.str (s.map Str.asciiUpper)) ∧
    (s.map Str.asciiUpper).length = s.length := by
  obtain ⟨h1, h2, h3, h4, h5, h6⟩ := Str.map_ascii s h
  simp [applyUn, Impl.upper, Impl.lower, h, h1, h2, h3, h4, h5, h6]

/-! non-vacuity -/
example : applyBin Oracle.empty .sub (.int 7) (.int 9) = .ok (.int (-2)) := by decide
example : applyBin Oracle.empty .rem (.int (-7)) (.int 2) = .ok (.int (-1)) := by decide
example : applyBin Oracle.empty .contains (.int 6) (.int 3) = .ok (.bool true) := by decide
example : applyUn Oracle.empty .hour (.duration (7200 * Time.nsPerSec)) = .ok (.int 2) := by decide
example : Time.ValidDate 2000 2 29 ∧ Time.ValidDate (-1) 12 31 ∧ ¬ Time.ValidDate 1900 2 29 := by decide
example : Time.daysFromCivil 2000 3 1 = 11017 := by decide
example : applyUn Oracle.empty .month (.dateTime (951782400 * Time.nsPerSec)) = .ok (.int 2) := by decide   -- 2000-02-29

example : Str.trim "\t a b  ".toList = "a b".toList := by decide
example : Str.isInfix "".toList "abc".toList = true ∧ Str.isInfix "bc".toList "abc".toList = true ∧ Str.isInfix "ac".toList "abc".toList = false := by decide
example : applyUn Oracle.empty .toInt (.str "-12".toList) = .ok (.int (-12)) ∧ applyUn Oracle.empty .toInt (.str " 12".toList) = .err (.invalidCast (.str " 12".toList)) := by decide
example : (Value.vec [.int 1, .map [("a".toList, .str "x".toList)], .none]).exact = true := by decide
example : Value.peq (.vec [.dec ⟨false, 10, 1⟩]) (.vec [.dec ⟨false, 100, 2⟩]) = true := by decide   -- d1.0 == d1.00: numeric, not identity
example : applyUn Oracle.empty .toInt (.dec ⟨true, 199, 2⟩) = .ok (.int (-1)) := by decide   -- int(d-1.99) = -1
example : applyUn Oracle.empty .toInt (.dec ⟨false, 25, 1⟩) = .ok (.int 2) := by decide      -- int(d2.5) = 2

example : applyUn Oracle.empty .hour (.duration (-5400 * Time.nsPerSec)) = .ok (.int (-1)) := by decide   -- −90 minutes: −1 hours
example : applyUn Oracle.empty .upper (.str "aZ-9 {z}".toList) = .ok (.str "AZ-9 {Z}".toList) := by decide

end Reval.C02
