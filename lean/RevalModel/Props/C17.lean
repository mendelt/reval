/-
  Props/C17.lean — conversions between Value and Rust types are lossless or fail.
-/
import RevalModel.Lemmas.Convert

namespace Reval.C17
open Conv

/-- integer round trip: every value of every integer type converts into a Value and back unchanged (stated for every
    `IntKind`; convert.rs has `From<T> for Value` for i8 … i128, u8 … u64 and usize, not for u128) -/
theorem int_roundtrip (k : IntKind) (n : Int) (h : k.inRange n = true) : tryInt k (fromInt k n) = .ok n :=
  (tryInt_ok_iff k _ n).2 ⟨rfl, h⟩

/-- extracting an integer type from an Int succeeds exactly when the number lies within that type's range -/
theorem tryInt_iff (k : IntKind) (n m : Int) : tryInt k (.int n) = .ok m ↔ (k.inRange n = true ∧ m = n) := by
  rw [tryInt_ok_iff, Value.int.injEq]
  exact ⟨fun ⟨e, h⟩ => ⟨e ▸ h, e.symm⟩, fun ⟨h, e⟩ => ⟨e.symm, e ▸ h⟩⟩

/-- extracting an integer type from an Int outside its range fails with the overflow error — no wrapping, no truncation -/
theorem tryInt_overflow (k : IntKind) (n : Int) (h : k.inRange n = false) : tryInt k (.int n) = .error .numericOverflow := by
  simp [tryInt, h]

/-- the number extracted is the number stored -/
theorem tryInt_no_wrap (k : IntKind) (v : Value) (m : Int) (h : tryInt k v = .ok m) : v = .int m ∧ k.inRange m = true :=
  (tryInt_ok_iff k v m).1 h

/-- extracting the wrong kind fails with a type error carrying the offending value (the kind is checked
    before the range, so even an out-of-range request on a non-Int reports the value) -/
theorem wrong_kind_carries_value (k : IntKind) (v : Value) :
    (v.ty ≠ .int → tryInt k v = .error (.unexpectedValue v)) ∧
    (v.ty ≠ .float → tryF64 v = .error (.unexpectedValue v)) ∧
    (v.ty ≠ .str → tryStr v = .error (.unexpectedValue v)) ∧
    (v.ty ≠ .dec → tryDec v = .error (.unexpectedValue v)) ∧
    (v.ty ≠ .bool → tryBool v = .error (.unexpectedValue v)) ∧
    (v.ty ≠ .dateTime → tryDateTime v = .error (.unexpectedValue v)) ∧
    (v.ty ≠ .duration → tryDuration v = .error (.unexpectedValue v)) ∧
    (v.ty ≠ .vec → tryVec (tryInt k) v = .error (.unexpectedValue v)) ∧
    (v.ty ≠ .map → tryMap (tryInt k) v = .error (.unexpectedValue v) ∧ tryMapValue v = .error (.unexpectedValue v)) := by
  -- for each kind of value: the conversion fails by its definition, or the hypothesis says `ty ≠ ty`
  cases v <;> refine ⟨?_, ?_, ?_, ?_, ?_, ?_, ?_, ?_, ?_⟩ <;> intro h <;>
    first | rfl | exact ⟨rfl, rfl⟩ | exact absurd rfl h

/-- f64, String, Decimal, bool, DateTime and TimeDelta: `T::try_from(Value::from(x))` is `Ok(x)` -/
theorem scalar_roundtrip (f : F64) (s : Str) (d : Dec) (b : Bool) (t u : Int) :
    tryF64 (fromF64 f) = .ok f ∧ tryStr (fromStr s) = .ok s ∧ tryDec (fromDec d) = .ok d ∧
    tryBool (fromBool b) = .ok b ∧ tryDateTime (fromDateTime t) = .ok t ∧ tryDuration (fromDuration u) = .ok u := by
  simp [tryF64, fromF64, tryStr, fromStr, tryDec, fromDec, tryBool, fromBool, tryDateTime, fromDateTime, tryDuration, fromDuration]

/-- `collect::<Result<Vec<_>, _>>()` succeeds exactly when every element does, element by element and in order -/
theorem collect_ok_iff {α β} (f : α → Except Err β) : ∀ (xs : List α) (ys : List β),
    collect f xs = .ok ys ↔ (xs.length = ys.length ∧ ∀ i (h : i < xs.length) (h' : i < ys.length), f xs[i] = .ok ys[i]) := by
  intro xs
  induction xs with
  | nil => intro ys; cases ys <;> simp [collect]
  | cons x xs ih =>
    intro ys
    cases ys with
    | nil => simp [collect_cons_ok]
    | cons y ys =>
      simp only [collect_cons_ok, List.cons.injEq, ih, List.length_cons, Nat.add_right_cancel_iff]
      constructor
      · rintro ⟨y', ys', hx, ⟨hl, h⟩, rfl, rfl⟩
        refine ⟨hl, fun i h1 h2 => ?_⟩
        cases i with
        | zero => exact hx
        | succ j => exact h j (Nat.lt_of_succ_lt_succ h1) (Nat.lt_of_succ_lt_succ h2)
      · rintro ⟨hl, h⟩
        exact ⟨y, ys, h 0 (Nat.zero_lt_succ _) (Nat.zero_lt_succ _),
          ⟨hl, fun i h1 h2 => h (i + 1) (Nat.succ_lt_succ h1) (Nat.succ_lt_succ h2)⟩, rfl, rfl⟩

/-- extracting a list succeeds exactly when every element converts (and then element by element, in order) -/
theorem vec_all_or_error {β} (elem : Value → Except Err β) (xs : List Value) (ys : List β) :
    tryVec elem (.vec xs) = .ok ys ↔
      (xs.length = ys.length ∧ ∀ i (h : i < xs.length) (h' : i < ys.length), elem xs[i] = .ok ys[i]) := by
  simp only [tryVec]; exact collect_ok_iff elem xs ys

/-- extracting a list fails with the error of its first element that does not convert -/
theorem vec_first_error {β} (elem : Value → Except Err β) (pre : List Value) (x : Value) (post : List Value) (e : Err)
    (hpre : ∀ v ∈ pre, ∃ y, elem v = .ok y) (hx : elem x = .error e) :
    tryVec elem (.vec (pre ++ x :: post)) = .error e :=
  collect_first_error elem x post e hx pre hpre

/-- list round trip for ANY element type whose own conversion round-trips on the elements present — so lists of lists, lists
    of maps, … at any depth round-trip, by applying this theorem to itself -/
theorem vec_roundtrip_any {β} (into : β → Value) (elem : Value → Except Err β) (xs : List β)
    (h : ∀ b ∈ xs, elem (into b) = .ok b) : tryVec elem (fromVec into xs) = .ok xs :=
  collect_map elem into xs h

/-- map round trip for any element type (keys distinct and in order, as a `BTreeMap` hands them over) -/
theorem map_roundtrip_any {β} (into : β → Value) (elem : Value → Except Err β) (kvs : List (Str × β)) (hs : KeysSorted kvs)
    (h : ∀ kv ∈ kvs, elem (into kv.2) = .ok kv.2) : tryMap elem (fromMap into kvs) = .ok kvs := by
  rw [fromMap_sorted _ _ hs]
  exact collect_map _ _ kvs (fun kv hkv => by simp [h kv hkv])

/-- a `Vec` of an integer type converts into a Value and back unchanged -/
theorem vec_roundtrip (k : IntKind) (ns : List Int) (h : ∀ n ∈ ns, k.inRange n = true) :
    tryVec (tryInt k) (fromVec (fromInt k) ns) = .ok ns :=
  vec_roundtrip_any _ _ ns (fun n hn => int_roundtrip k n (h n hn))

/-- a `BTreeMap` with string keys converts into a Value and back unchanged: every key exactly as it was (nothing trims,
    folds or re-parses a key), every value through its own conversion -/
theorem map_roundtrip (k : IntKind) (kvs : List (Str × Int)) (hs : KeysSorted kvs)
    (h : ∀ kv ∈ kvs, k.inRange kv.2 = true) :
    tryMap (tryInt k) (fromMap (fromInt k) kvs) = .ok kvs :=
  map_roundtrip_any _ _ kvs hs (fun kv hkv => int_roundtrip k kv.2 (h kv hkv))

/-- the Value a map converts into holds exactly the entries of the map -/
theorem map_image (k : IntKind) (kvs : List (Str × Int)) (hs : KeysSorted kvs) :
    fromMap (fromInt k) kvs = .map (kvs.map (fun kv => (kv.1, .int kv.2))) := by
  rw [fromMap_sorted _ _ hs]; rfl

/-- so does a `Vec<Vec<_>>` of an integer type: `vec_roundtrip_any` applied to itself -/
theorem nested_vec_roundtrip (k : IntKind) (nss : List (List Int)) (h : ∀ ns ∈ nss, ∀ n ∈ ns, k.inRange n = true) :
    tryVec (tryVec (tryInt k)) (fromVec (fromVec (fromInt k)) nss) = .ok nss :=
  vec_roundtrip_any _ _ nss (fun ns hns => vec_roundtrip k ns (h ns hns))

/-! non-vacuity -/
example : KeysSorted [(" a".toList, (1 : Int)), ("A".toList, 2), ("a".toList, 3), ("a ".toList, 4)] := by
  unfold KeysSorted; decide

example : tryInt IntKind.u8 (.int 255) = .ok 255 ∧ tryInt IntKind.u8 (.int 256) = .error .numericOverflow ∧
    tryInt IntKind.i8 (.int (-129)) = .error .numericOverflow ∧ tryInt IntKind.u64 (.int (-1)) = .error .numericOverflow := by
  simp [tryInt, IntKind.inRange, IntKind.u8, IntKind.i8, IntKind.u64, IntKind.lo, IntKind.hi]
example : tryVec (tryInt IntKind.u8) (.vec [.int 1, .int 300, .str []]) = .error .numericOverflow := by
  simp [tryVec, collect, tryInt, IntKind.inRange, IntKind.u8, IntKind.lo, IntKind.hi]

end Reval.C17
