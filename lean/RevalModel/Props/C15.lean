/-
  Props/C15.lean — a ruleset never holds duplicate or ill-formed rule and function names.
-/
import RevalModel.Impl.Builder
import RevalModel.Lemmas.Sorted

namespace Reval.C15

/-- the property's notion of a well-formed identifier: non-empty, starts with `_` or an XID_Start character,
    continues with XID_Continue characters only -/
def wellFormed (x : Xid) (n : Str) : Prop :=
  ∃ c rest, n = c :: rest ∧ (c = '_' ∨ x.start c = true) ∧ ∀ d ∈ rest, x.cont d = true

theorem valid_iff_wellFormed (x : Xid) (n : Str) : isValidIdentifier x n = true ↔ wellFormed x n := by
  cases n with
  | nil => simp [isValidIdentifier, wellFormed]
  | cons c rest =>
    simp only [isValidIdentifier, wellFormed, Bool.and_eq_true, Bool.or_eq_true, beq_iff_eq, List.all_eq_true]
    constructor
    · intro ⟨h1, h2⟩; exact ⟨c, rest, rfl, h1, h2⟩
    · intro ⟨c', rest', he, h1, h2⟩; cases he; exact ⟨h1, h2⟩

/-- adding a rule succeeds exactly when no rule of that name was added before; a refusal reports the name;
    on success the rule is appended (order of addition is kept) -/
theorem with_rule_iff (s : BState) (r : RuleM) :
    (r.name ∉ s.rules.map RuleM.name → withRule s r = .ok { s with rules := s.rules ++ [r] }) ∧
    (r.name ∈ s.rules.map RuleM.name → withRule s r = .error (.duplicateRuleName r.name)) := by
  unfold withRule
  constructor <;> intro h
  · rw [if_neg (by simpa using h)]
  · rw [if_pos (by simpa using h)]

/-- adding a user function succeeds exactly when its name is a well-formed identifier, is not a reserved word
    and was not added before; a refusal reports the offending name -/
theorem with_function_iff (x : Xid) (s : BState) (f : Str × FnModel) :
    (wellFormed x f.1 → f.1 ∉ KEYWORDS → lookup s.fns f.1 = none →
      withFunction x s f = .ok { s with fns := insertSorted f.1 f.2 s.fns }) ∧
    (f.1 ∈ KEYWORDS → withFunction x s f = .error (.invalidFunctionName f.1)) ∧
    (¬ wellFormed x f.1 → withFunction x s f = .error (.invalidFunctionName f.1)) ∧
    (wellFormed x f.1 → f.1 ∉ KEYWORDS → (lookup s.fns f.1).isSome = true →
      withFunction x s f = .error (.duplicateFunctionName f.1)) := by
  simp only [← valid_iff_wellFormed, withFunction, addFunction, isReservedKeyword, List.contains_iff_mem]
  refine ⟨?_, ?_, ?_, ?_⟩ <;> intros <;> simp_all

/-- the invariant: rule names distinct; every stored function name is well-formed and not reserved -/
def BInv (x : Xid) (s : BState) : Prop :=
  (s.rules.map RuleM.name).Nodup ∧ ∀ n fm, lookup s.fns n = some fm → wellFormed x n ∧ n ∉ KEYWORDS

theorem inv_init (x : Xid) : BInv x BState.init := by
  simp [BInv, BState.init, lookup]

theorem withFunction_ok {x : Xid} {s s' : BState} {f : Str × FnModel} (hs : withFunction x s f = .ok s') :
    s' = { s with fns := insertSorted f.1 f.2 s.fns } ∧ f.1 ∉ KEYWORDS ∧ wellFormed x f.1 ∧ lookup s.fns f.1 = none := by
  by_cases hk : f.1 ∈ KEYWORDS
  · rw [(with_function_iff x s f).2.1 hk] at hs; cases hs
  by_cases hw : wellFormed x f.1
  · cases hl : lookup s.fns f.1 with
    | none => rw [(with_function_iff x s f).1 hw hk hl] at hs; cases hs; exact ⟨rfl, hk, hw, rfl⟩
    | some fm => rw [(with_function_iff x s f).2.2.2 hw hk (by simp [hl])] at hs; cases hs
  · rw [(with_function_iff x s f).2.2.1 hw] at hs; cases hs

theorem withRule_ok {s s' : BState} {r : RuleM} (hs : withRule s r = .ok s') :
    s' = { s with rules := s.rules ++ [r] } ∧ r.name ∉ s.rules.map RuleM.name := by
  by_cases hm : r.name ∈ s.rules.map RuleM.name
  · rw [(with_rule_iff s r).2 hm] at hs; cases hs
  · rw [(with_rule_iff s r).1 hm] at hs; cases hs; exact ⟨rfl, hm⟩

/-- a run of fallible steps, written out by recursion as `withRules`, `withFunctions` and `brun` are, keeps what
    every successful step keeps -/
theorem run_inv {σ α : Type} {P : σ → Prop} {step : σ → α → Except Err σ} {run : σ → List α → Except Err σ}
    (h0 : ∀ s, run s [] = .ok s)
    (h1 : ∀ s a as, run s (a :: as) = match step s a with | .ok s' => run s' as | .error e => .error e)
    (hstep : ∀ s a s', P s → step s a = .ok s' → P s') : ∀ as s s', P s → run s as = .ok s' → P s'
  | [], s, s', h, hs => by rw [h0] at hs; cases hs; exact h
  | a :: as, s, s', h, hs => by
    rw [h1] at hs
    split at hs
    · rename_i s1 hs1; exact run_inv h0 h1 hstep as s1 s' (hstep s a s1 h hs1) hs
    · cases hs

theorem bstep_inv (x : Xid) {P : BState → Prop} (hrule : ∀ s r s', P s → withRule s r = .ok s' → P s')
    (hfn : ∀ s f s', P s → withFunction x s f = .ok s' → P s') (hsym : ∀ s k v, P s → P (withSymbol s k v))
    (s : BState) (op : BOp) (s' : BState) (h : P s) (hs : bstep x s op = .ok s') : P s' := by
  cases op with
  | rule r => exact hrule s r s' h hs
  | rules rs => exact run_inv (fun _ => rfl) (fun s r _ => by rw [withRules]; cases withRule s r <;> rfl) hrule rs s s' h hs
  | fn f => exact hfn s f s' h hs
  | fns fs => exact run_inv (fun _ => rfl) (fun s f _ => by rw [withFunctions]; cases withFunction x s f <;> rfl) hfn fs s s' h hs
  | sym k v => cases hs; exact hsym s k v h
  | syms t =>
    cases hs
    have : ∀ (t : List (Str × Value)) (s : BState), P s → P (withSymbols s t) := by
      intro t; induction t with
      | nil => exact fun s h => h
      -- `withSymbols s (kv :: t)` is `withSymbols (withSymbol s kv.1 kv.2) t` by `List.foldl_cons`, up to unfolding
      | cons kv t ih => exact fun s h => ih (withSymbol s kv.1 kv.2) (hsym s kv.1 kv.2 h)
    exact this t s h

theorem brun_inv (x : Xid) {P : BState → Prop} (hstep : ∀ s s' op, P s → bstep x s op = .ok s' → P s') :
    ∀ ops s s', P s → brun x s ops = .ok s' → P s' :=
  run_inv (fun _ => rfl) (fun s op _ => by rw [brun]; cases bstep x s op <;> rfl) fun s op s' => hstep s s' op

theorem withRule_inv (x : Xid) (s : BState) (r : RuleM) (s' : BState) (h : BInv x s) (hs : withRule s r = .ok s') : BInv x s' := by
  obtain ⟨rfl, hm⟩ := withRule_ok hs
  refine ⟨?_, h.2⟩
  simp only [List.map_append, List.map_cons, List.map_nil]
  exact List.nodup_append.2 ⟨h.1, by simp, by intro a ha b hb; simp at hb; subst hb; exact fun e => hm (e ▸ ha)⟩

theorem withFunction_inv (x : Xid) (s : BState) (f : Str × FnModel) (s' : BState) (h : BInv x s)
    (hs : withFunction x s f = .ok s') : BInv x s' := by
  obtain ⟨rfl, hk, hw, _⟩ := withFunction_ok hs
  refine ⟨h.1, fun n fm hl => ?_⟩
  by_cases hn : n = f.1
  · exact hn ▸ ⟨hw, hk⟩
  · rw [lookup_insertSorted_other _ _ _ _ hn] at hl; exact h.2 n fm hl

theorem inv_step (x : Xid) (s s' : BState) (op : BOp) (h : BInv x s) (hs : bstep x s op = .ok s') : BInv x s' :=
  bstep_inv x (withRule_inv x) (withFunction_inv x) (fun _ _ _ h => h) s op s' h hs

/-- for every sequence of builder calls: whatever was built satisfies the invariant -/
theorem inv_reachable (x : Xid) : ∀ (ops : List BOp) (s s' : BState), BInv x s → brun x s ops = .ok s' → BInv x s' :=
  brun_inv x (inv_step x)

/-- whatever builder calls were made, the built ruleset has distinct rule names and only well-formed, non-reserved function
    names -/
theorem built_ruleset_is_well_formed (x : Xid) (ops : List BOp) (s : BState) (h : brun x BState.init ops = .ok s) :
    (s.rules.map RuleM.name).Nodup ∧ ∀ n fm, lookup s.fns n = some fm → wellFormed x n ∧ n ∉ KEYWORDS :=
  inv_reachable x ops BState.init s (inv_init x) h

/-- both tables strictly increasing in their keys (the `BTreeMap` invariant, here a consequence of the builder's steps) -/
def BSorted (s : BState) : Prop := KeysSorted s.fns ∧ KeysSorted s.symbols

theorem sorted_reachable (x : Xid) : ∀ (ops : List BOp) (s s' : BState), BSorted s → brun x s ops = .ok s' → BSorted s' :=
  brun_inv x fun s s' op => bstep_inv x
    (fun s r s' h hs => by obtain ⟨rfl, _⟩ := withRule_ok hs; exact h)
    (fun s f s' h hs => by obtain ⟨rfl, _⟩ := withFunction_ok hs; exact ⟨keysSorted_insert _ _ _ h.1, h.2⟩)
    (fun s k v h => ⟨h.1, keysSorted_insert _ _ _ h.2⟩) s op s'

/-- for every sequence of builder calls the built ruleset holds every function name and every symbol name once: the tables
    are strictly ordered by name -/
theorem built_tables_hold_each_name_once (x : Xid) (ops : List BOp) (s : BState) (h : brun x BState.init ops = .ok s) :
    (s.fns.map Prod.fst).Nodup ∧ (s.symbols.map Prod.fst).Nodup := by
  have hs := sorted_reachable x ops BState.init s ⟨List.Pairwise.nil, List.Pairwise.nil⟩ h
  exact ⟨keysSorted_nodup _ hs.1, keysSorted_nodup _ hs.2⟩

/-- an accepted function is invocable under its own name (and it is that function that is invoked).  `hnc`: a cacheable
    function is looked up in the cache first, so the call need not invoke it -/
theorem function_invocable_under_own_name (x : Xid) (s s' : BState) (f : Str × FnModel) (facts a : Value) (o : Oracle)
    (st : St) (hs : withFunction x s f = .ok s') (hnc : f.2.cacheable = false) :
    lookup s'.fns f.1 = some f.2 ∧
    callFn (s'.env facts o) f.1 a st = invokeFn f.2 f.1 a st := by
  obtain ⟨rfl, _⟩ := withFunction_ok hs
  have hl := lookup_insertSorted_self f.1 f.2 s.fns
  exact ⟨hl, by simp [callFn, BState.env, hl, hnc]⟩

/-- functions accepted earlier stay (under their own names) when another one is added -/
theorem earlier_functions_kept (x : Xid) (s s' : BState) (f : Str × FnModel) (n : Str)
    (hs : withFunction x s f = .ok s') (hn : n ≠ f.1) : lookup s'.fns n = lookup s.fns n := by
  obtain ⟨rfl, _⟩ := withFunction_ok hs
  exact lookup_insertSorted_other _ _ _ _ hn

/-- a symbol resolves to the value most recently registered under its name; other names are untouched -/
theorem symbol_last_wins (s : BState) (k k' : Str) (v : Value) (hk : k' ≠ k) :
    lookup (withSymbol s k v).symbols k = some v ∧
    lookup (withSymbol s k v).symbols k' = lookup s.symbols k' := by
  simp [withSymbol, lookup_insertSorted_self, lookup_insertSorted_other _ _ _ _ hk]

/-- `with_symbols` is `BTreeMap::append`: the incoming table wins, and of a name it repeats, its last entry -/
theorem symbols_table_last_wins (s : BState) : ∀ (t : List (Str × Value)) (k : Str),
    lookup (withSymbols s t).symbols k =
      match t.reverse.find? (fun kv => kv.1 = k) with
      | some kv => some kv.2
      | none => lookup s.symbols k := by
  intro t k
  rw [withSymbols, lookup_foldl_insert]; cases t.reverse.find? (fun kv => kv.1 = k) <;> rfl

/-! non-vacuity -/
def asciiXid : Xid :=
  ⟨fun c => ('a' ≤ c && c ≤ 'z') || ('A' ≤ c && c ≤ 'Z'),
   fun c => ('a' ≤ c && c ≤ 'z') || ('A' ≤ c && c ≤ 'Z') || ('0' ≤ c && c ≤ '9') || c == '_'⟩
example : isValidIdentifier asciiXid "_a b".toList = false ∧ isValidIdentifier asciiXid "_-".toList = false ∧
    isValidIdentifier asciiXid "_id1".toList = true ∧ isValidIdentifier asciiXid "1id".toList = false ∧
    isValidIdentifier asciiXid [] = false := by decide
example : isReservedKeyword "if".toList = true ∧ isReservedKeyword "val".toList = true ∧ isReservedKeyword "iff".toList = false := by
  -- the 38 string literals into character lists first (`decide` alone decodes each by `whnf`)
  simp only [isReservedKeyword, KEYWORDS, List.map, String.reduceToList]
  decide

end Reval.C15
