/-
  Props/C05.lean — conditionals and logic evaluate lazily; everything else once, left to right;
  the first error ends the evaluation.
-/
import RevalModel.Lemmas.Lazy

namespace Reval.C05

/-- the call sites reached during an evaluation form a subsequence of the static left-to-right post-order
    of the expression (map entries in key order): nothing is evaluated out of order … -/
theorem trace_sublist (env : Env) (rp : List Nat) (e : Expr) (st : St) :
    (reached (eval env rp e st).2.2).Sublist (sites rp e) := Reval.trace_sublist env rp e st

/-- … that order lists every call site once, so no call site is evaluated twice … -/
theorem each_site_at_most_once (env : Env) (rp : List Nat) (e : Expr) (st : St) :
    (sites rp e).Nodup ∧ (reached (eval env rp e st).2.2).Nodup :=
  ⟨sites_nodup rp e, reached_nodup env rp e st⟩

/-- … and every user-function invocation belongs to a call node that was reached, in the same order
    (a sub-expression that is not reached invokes nothing) -/
theorem invocations_only_at_reached_sites (env : Env) (rp : List Nat) (e : Expr) (st : St) :
    (invokedCalls (eval env rp e st).2.2).Sublist (reachedCalls (eval env rp e st).2.2) :=
  invoked_sublist_reached env rp e st

/-- `if`: exactly one branch — the result, state and history are the condition's followed by the chosen
    branch's; the other branch does not occur -/
theorem lazy_if (env : Env) (rp : List Nat) (c t e : Expr) (st st1 : St) (ev : List Event) :
    (eval env (0 :: rp) c st = (.ok (.bool true), st1, ev) →
      eval env rp (.ite c t e) st =
        ((eval env (1 :: rp) t st1).1, (eval env (1 :: rp) t st1).2.1, ev ++ (eval env (1 :: rp) t st1).2.2)) ∧
    (eval env (0 :: rp) c st = (.ok (.bool false), st1, ev) →
      eval env rp (.ite c t e) st =
        ((eval env (2 :: rp) e st1).1, (eval env (2 :: rp) e st1).2.1, ev ++ (eval env (2 :: rp) e st1).2.2)) := by
  constructor <;> (intro h; simp [eval, h])

/-- `and` / `or`: the right operand is not evaluated when the left one decides -/
theorem lazy_and_or (env : Env) (rp : List Nat) (l r : Expr) (st st1 : St) (ev : List Event) :
    (eval env (0 :: rp) l st = (.ok (.bool false), st1, ev) →
      eval env rp (.and l r) st = (.ok (.bool false), st1, ev)) ∧
    (eval env (0 :: rp) l st = (.ok (.bool true), st1, ev) →
      eval env rp (.or l r) st = (.ok (.bool true), st1, ev)) := by
  constructor <;> (intro h; simp [eval, h])

/-- … and when it does not, the right operand's outcome decides: its own error is reported unchanged (a user
    function's failure stays that failure), a boolean is the result -/
theorem reached_right_operand_decides (env : Env) (rp : List Nat) (l r : Expr) (st st1 st2 : St) (x : Err) (b : Bool)
    (ev ev2 : List Event) :
    (eval env (0 :: rp) l st = (.ok (.bool true), st1, ev) → eval env (1 :: rp) r st1 = (.err x, st2, ev2) →
      eval env rp (.and l r) st = (.err x, st2, ev ++ ev2)) ∧
    (eval env (0 :: rp) l st = (.ok (.bool false), st1, ev) → eval env (1 :: rp) r st1 = (.err x, st2, ev2) →
      eval env rp (.or l r) st = (.err x, st2, ev ++ ev2)) ∧
    (eval env (0 :: rp) l st = (.ok (.bool true), st1, ev) → eval env (1 :: rp) r st1 = (.ok (.bool b), st2, ev2) →
      eval env rp (.and l r) st = (.ok (.bool b), st2, ev ++ ev2)) ∧
    (eval env (0 :: rp) l st = (.ok (.bool false), st1, ev) → eval env (1 :: rp) r st1 = (.ok (.bool b), st2, ev2) →
      eval env rp (.or l r) st = (.ok (.bool b), st2, ev ++ ev2)) := by
  refine ⟨?_, ?_, ?_, ?_⟩ <;> (intro h1 h2; simp [eval, h1, h2])

/-- `==` / `!=`: the right operand is not evaluated when the left is None (the same statement as `C04.none_eq_left`) -/
theorem lazy_eq_none (env : Env) (rp : List Nat) (l r : Expr) (st st1 : St) (ev : List Event)
    (h : eval env (0 :: rp) l st = (.ok .none, st1, ev)) :
    eval env rp (.eq l r) st = (.ok (.bool false), st1, ev) ∧
    eval env rp (.neq l r) st = (.ok (.bool true), st1, ev) := by
  simp [eval, h]

/-- an unreached sub-expression is inert: it can be replaced by anything (an erroring expression, a call) without changing
    result, state or history — the untaken branch of `if`, the right operand of a decided `and` / `or`, of `==` after None -/
theorem unreached_is_inert (env : Env) (rp : List Nat) (c l t e x y : Expr) (st st1 : St) (ev : List Event) :
    (eval env (0 :: rp) c st = (.ok (.bool true), st1, ev) → eval env rp (.ite c t x) st = eval env rp (.ite c t y) st) ∧
    (eval env (0 :: rp) c st = (.ok (.bool false), st1, ev) → eval env rp (.ite c x e) st = eval env rp (.ite c y e) st) ∧
    (eval env (0 :: rp) l st = (.ok (.bool false), st1, ev) → eval env rp (.and l x) st = eval env rp (.and l y) st) ∧
    (eval env (0 :: rp) l st = (.ok (.bool true), st1, ev) → eval env rp (.or l x) st = eval env rp (.or l y) st) ∧
    (eval env (0 :: rp) l st = (.ok .none, st1, ev) → eval env rp (.eq l x) st = eval env rp (.eq l y) st) := by
  refine ⟨?_, ?_, ?_, ?_, ?_⟩ <;> (intro h; simp [eval, h])

/-- the first error ends the evaluation of a node — an error of the first operand of `bin`, `un`, index, call, `if`
    (equal branches), `and`, `==`, or of the second operand of `bin`: the node's outcome is that error, state and history
    those reached at that point -/
theorem strict_error_short_circuits (env : Env) (rp : List Nat) (op : BinOp) (uop : UnOp) (l r : Expr) (i : Index)
    (f : Str) (st st1 st2 : St) (a : Value) (x : Err) (ev ev2 : List Event) :
    (eval env (0 :: rp) l st = (.err x, st1, ev) → eval env rp (.bin op l r) st = (.err x, st1, ev)) ∧
    (eval env (0 :: rp) l st = (.ok a, st1, ev) → eval env (1 :: rp) r st1 = (.err x, st2, ev2) →
      eval env rp (.bin op l r) st = (.err x, st2, ev ++ ev2)) ∧
    (eval env (0 :: rp) l st = (.err x, st1, ev) → eval env rp (.un uop l) st = (.err x, st1, ev)) ∧
    (eval env (0 :: rp) l st = (.err x, st1, ev) → eval env rp (.index l i) st = (.err x, st1, ev)) ∧
    (eval env (0 :: rp) l st = (.err x, st1, ev) → eval env rp (.call f l) st = (.err x, st1, ev)) ∧
    (eval env (0 :: rp) l st = (.err x, st1, ev) → eval env rp (.ite l r r) st = (.err x, st1, ev)) ∧
    (eval env (0 :: rp) l st = (.err x, st1, ev) → eval env rp (.and l r) st = (.err x, st1, ev)) ∧
    (eval env (0 :: rp) l st = (.err x, st1, ev) → eval env rp (.eq l r) st = (.err x, st1, ev)) := by
  refine ⟨?_, ?_, ?_, ?_, ?_, ?_, ?_, ?_⟩ <;> (intros; simp_all [eval])

/-- lists: the first failing item's error, nothing after it -/
theorem list_first_error (env : Env) (rp : List Nat) (i : Nat) (e : Expr) (es : List Expr) (st st1 : St) (x : Err)
    (ev : List Event) (h : eval env (i :: rp) e st = (.err x, st1, ev)) :
    evalList env rp i (e :: es) st = (.err x, st1, ev) := by
  simp [evalList, h]

theorem list_left_to_right (env : Env) (rp : List Nat) (i : Nat) (e : Expr) (es : List Expr) (st st1 : St) (v : Value)
    (ev : List Event) (h : eval env (i :: rp) e st = (.ok v, st1, ev)) :
    (evalList env rp i (e :: es) st).2.2 = ev ++ (evalList env rp (i + 1) es st1).2.2 := by
  simp only [evalList, h]; split <;> simp_all

/-- an expression without `if` / `and` / `or` / `==` / `!=` that yields a value has reached EVERY one of its call sites,
    each exactly once, in the static left-to-right order (list items by position, map entries by key) -/
theorem strict_evaluates_everything_once (env : Env) (rp : List Nat) (e : Expr) (st : St) (hs : e.strict = true)
    (v : Value) (st1 : St) (ev : List Event) (h : eval env rp e st = (.ok v, st1, ev)) :
    reached ev = sites rp e ∧ (reached ev).Nodup := by
  have := strict_ok_reaches_all env rp e st hs v st1 ev h
  exact ⟨this, this ▸ sites_nodup rp e⟩

/-! non-vacuity: a lazy `if` over logging functions — only `t` and `a` are invoked, in that order -/
def demoEnv : Env :=
  ⟨.none, [], [(['t'], ⟨false, fun _ _ => .ok (.bool true)⟩), (['a'], ⟨false, fun _ v => .ok v⟩),
               (['b'], ⟨false, fun _ _ => .error ['x']⟩)], Oracle.empty⟩
example :
    invokedCalls (eval demoEnv [] (.ite (.call ['t'] (.lit (.int 1))) (.call ['a'] (.lit (.int 2))) (.call ['b'] (.lit (.int 3)))) St.init).2.2
      = [(['t'], .int 1), (['a'], .int 2)] := by decide

def strictDemo : Expr :=
  .vec [.call ['a'] (.lit (.int 1)), .bin .add (.call ['a'] (.lit (.int 2))) (.call ['a'] (.call ['a'] (.lit (.int 3))))]
example : strictDemo.strict = true ∧ (eval demoEnv [] strictDemo St.init).1 = .ok (.vec [.int 1, .int 5]) ∧
    reached (eval demoEnv [] strictDemo St.init).2.2 = [[0], [0, 1], [0, 1, 1], [1, 1]] := by decide

end Reval.C05
