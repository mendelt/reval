/-
  Props/C09.lean — a ruleset yields one outcome per rule, in order, each isolated from the others.
  The clause about `evaluate(&T)` = serialize, then `evaluate_value` needs the serializer: it is `C13.evaluate_factors`,
  and Props/C13 is imported so that this module reaches every theorem listed for C09.
-/
import RevalModel.Lemmas.Denote
import RevalModel.Props.C13

namespace Reval.C09

theorem evalRules_length (env : Env) : ∀ (rules : List Expr) (i : Nat) (st : St),
    (evalRules env i rules st).1.length = rules.length
  | [], _, _ => rfl
  | _ :: es, i, _ => congrArg (· + 1) (evalRules_length env es (i + 1) _)

/-- exactly one outcome per rule -/
theorem outcomes_length (env : Env) (rules : List Expr) : (evaluateValue env rules).1.length = rules.length :=
  evalRules_length env rules 0 St.init

/-- in the order the rules were added: the first rule's result, then the outcomes of the rest from the state the first
    one left — whether or not it failed (`evalRules` unfolded once) -/
theorem outcomes_order (env : Env) (e : Expr) (es : List Expr) (i : Nat) (st : St) :
    (evalRules env i (e :: es) st).1 =
      (eval env [i] e st).1 :: (evalRules env (i + 1) es (eval env [i] e st).2.1).1 := rfl

/-- with deterministic functions every outcome is that rule's state-free denotation: independent of the other rules,
    of their failures and of the cache -/
theorem outcome_standalone (env : Env) (hd : Deterministic env) (rules : List Expr) :
    (evaluateValue env rules).1 = rules.map (denote env) :=
  evalRules_denote env hd rules 0 St.init (consistent_init env)

/-- … which is also what evaluating the rule alone (fresh cache) gives -/
theorem standalone_is_eval_alone (env : Env) (hd : Deterministic env) (e : Expr) :
    (eval env [] e St.init).1 = denote env e :=
  (eval_denote env hd [] e St.init (consistent_init env)).1

/-- isolation: replacing, adding or removing *other* rules (failing or not) leaves rule k's outcome unchanged -/
theorem isolation (env : Env) (hd : Deterministic env) (pre pre' post post' : List Expr) (e : Expr)
    (hlen : pre.length = pre'.length) :
    (evaluateValue env (pre ++ e :: post)).1[pre.length]? = (evaluateValue env (pre' ++ e :: post')).1[pre'.length]? := by
  rw [outcome_standalone env hd, outcome_standalone env hd]
  simp [hlen]

/-- a failing rule yields an error outcome and the evaluation goes on: the outcome list still has one entry per rule -/
theorem failure_does_not_stop (env : Env) (e : Expr) (es : List Expr) (x : Err) (st1 : St) (ev : List Event)
    (h : eval env [0] e St.init = (.err x, st1, ev)) :
    (evaluateValue env (e :: es)).1 = .err x :: (evalRules env 1 es st1).1 ∧
    (evaluateValue env (e :: es)).1.length = es.length + 1 := by
  constructor
  · simp [evaluateValue, evalRules, h]
  · simpa using outcomes_length env (e :: es)

/-- the k-th outcome is the k-th rule's own result, for every position -/
theorem outcome_at (env : Env) (hd : Deterministic env) (rules : List Expr) (k : Nat) :
    (evaluateValue env rules).1[k]? = (rules[k]?).map (denote env) := by
  rw [outcome_standalone env hd]; simp

/-- two groups of rules in one ruleset: the outcomes of the first followed by those of the second -/
theorem outcomes_append (env : Env) (hd : Deterministic env) (rs1 rs2 : List Expr) :
    (evaluateValue env (rs1 ++ rs2)).1 = (evaluateValue env rs1).1 ++ (evaluateValue env rs2).1 := by
  simp [outcome_standalone env hd]

/-- reordering the rules permutes the outcomes and changes none of them (that outcome `k` belongs to rule `k`: `outcome_at`) -/
theorem outcomes_reorder (env : Env) (hd : Deterministic env) (rules rules' : List Expr) (h : rules.Perm rules') :
    (evaluateValue env rules).1.Perm (evaluateValue env rules').1 := by
  rw [outcome_standalone env hd, outcome_standalone env hd]; exact h.map _

/-- the same expression added twice yields the same outcome twice, wherever the two copies stand -/
theorem same_rule_same_outcome (env : Env) (hd : Deterministic env) (rules : List Expr) (i j : Nat) (e : Expr)
    (hi : rules[i]? = some e) (hj : rules[j]? = some e) :
    (evaluateValue env rules).1[i]? = (evaluateValue env rules).1[j]? := by
  rw [outcome_at env hd, outcome_at env hd, hi, hj]

example :
    (evaluateValue ⟨.map [(['x'], .int 5)], [], [], Oracle.empty⟩
      [.bin .div (.lit (.int 1)) (.lit (.int 0)), .ref ['x'], .ref ['y']]).1
      = [.err .divByZero, .ok (.int 5), .err (.unknownRef ['y'])] := by decide

end Reval.C09
