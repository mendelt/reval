/-
  Props/C07.lean — text is structured by one fixed precedence and associativity table.

  `Spec/Grammar.lean` gives the level of every node (`lvl`) and says what it means for a token list to *render* a tree
  under the table (`G.R k e T`: the children of every node rendered at the level the table requires for their position,
  plus any number of redundant parentheses).  The operators of each level and the function keywords `G.R` takes from
  `binOpAt` / `funcOfKw` of Impl/Parser.lean — the functions the parser itself calls, so `G.R` moves with them; their
  contents are pinned as data by `G.opTab` (Lemmas/GrammarTable.lean).
  The theorems below are about the code-shaped recursive-descent model `pIf` (Impl/Parser.lean, compared with the
  LALRPOP parser on every correspondence case): every rendering of every tree parses back to exactly that tree.  Associativity, relative
  precedence and `in` = flipped `contains` are instances; non-chaining is `contains_stops`, a lemma of its own (the parse
  stops with the second keyword unread).

  Fuel: the model's parser is fuel-indexed (structural recursion).  The fuel `parseFuel T` of the executable `parseToks`
  is sufficient for every token list (Lemmas/Fuel.lean), so "for every sufficiently large fuel" and "for `parseToks`"
  are the same statement.
-/
import RevalModel.Lemmas.RoundTrip
import RevalModel.Lemmas.ParseSound
import RevalModel.Lemmas.Fuel

namespace Reval.C07
open Reval.G

/-- "for every sufficiently large fuel, parsing `T` consumes it entirely and returns `e`": `G.PIf o T e []` unfolded -/
def ParsesTo (o : Oracle) (T : List Tok) (e : Expr) : Prop := ∃ f0, ∀ f, f0 ≤ f → pIf o f T = .ok e []

/-- **the tree of every derivation is returned**, whatever the rendering (minimal, full or any redundant
    parenthesisation) -/
theorem renderings_parse_back (o : Oracle) (e : Expr) (T : List Tok) (h : R o 0 e T) :
    ParsesTo o T e := parse_render h

/-- **only derivations are accepted**, at any fuel -/
theorem accepted_is_derived (o : Oracle) (f : Nat) (e : Expr) (T : List Tok) (h : pIf o f T = .ok e []) : R o 0 e T :=
  parse_sound h

/-- **a token sequence is accepted exactly when the table grammar derives it, with that tree** -/
theorem accepted_iff_derived (o : Oracle) (e : Expr) (T : List Tok) : (∃ f, pIf o f T = .ok e []) ↔ R o 0 e T := by
  constructor
  · intro ⟨f, h⟩; exact parse_sound h
  · intro h; obtain ⟨f0, p⟩ := parse_render h; exact ⟨f0, p f0 (Nat.le_refl _)⟩

/-- what `parseToks` returns is derived by the table, and is returned at every larger fuel -/
theorem parseToks_is_derived (o : Oracle) (e : Expr) (T : List Tok) (h : parseToks o T = .ok e []) :
    R o 0 e T ∧ ParsesTo o T e := by
  have h' := parse_sound ((parseToks_ok_iff o e T).1 h)
  exact ⟨h', parse_render h'⟩

/-- **the fuel is sufficient**: every fuel from `parseFuel T` on gives the same result — tree, rejection, or declined
    literal -/
theorem fuel_is_sufficient (o : Oracle) (T : List Tok) (f : Nat) (h : parseFuel T ≤ f) :
    pIf o f T = pIf o (parseFuel T) T := pIf_fuel_enough o T f h

/-- "parses to `e` at every sufficiently large fuel" is "the executable parser returns `e`" -/
theorem parsesTo_iff_parseToks (o : Oracle) (e : Expr) (T : List Tok) : ParsesTo o T e ↔ parseToks o T = .ok e [] := by
  rw [parseToks_ok_iff]; exact eventually_iff_parseFuel o T _

/-- **the executable parser accepts a token sequence exactly when the table grammar derives it, and returns the tree
    of that (unique) derivation** — no fuel in the statement -/
theorem parseToks_iff_derived (o : Oracle) (e : Expr) (T : List Tok) : parseToks o T = .ok e [] ↔ R o 0 e T :=
  ⟨fun h => parse_sound ((parseToks_ok_iff o e T).1 h), fun h => (parsesTo_iff_parseToks o e T).1 (parse_render h)⟩

/-- a token list that no tree renders is not accepted -/
theorem underivable_is_not_accepted (o : Oracle) (T : List Tok) (h : ∀ e, ¬ R o 0 e T) (e : Expr) :
    parseToks o T ≠ .ok e [] := fun hp => h e ((parseToks_iff_derived o e T).1 hp)

/-- **unique derivation**: a token list renders at most one tree -/
theorem derivation_unique (o : Oracle) (e1 e2 : Expr) (T : List Tok)
    (h1 : R o 0 e1 T) (h2 : R o 0 e2 T) : e1 = e2 := by
  -- both trees are returned at every large enough fuel; no bound on the fuel is needed for that
  obtain ⟨f, h⟩ := (parse_render h1).and (parse_render h2)
  obtain ⟨a, b⟩ := h f (Nat.le_refl f)
  rw [a] at b
  cases b; rfl

/-- **parentheses only group**: the rule `R.paren` of the relation, at any position level — nothing about the parser here;
    that the parenthesised text parses to the same tree is `renderings_parse_back` applied to it -/
theorem parentheses_only_group (o : Oracle) (k : Nat) (e : Expr) (T : List Tok) (h : R o 0 e T) :
    R o k e (lp :: (T ++ [rp])) := R.paren k e T h

/-- **every binary level is left-associative**: `a ∘₁ b ∘₂ c` with both operators of level `k` is `(a ∘₁ b) ∘₂ c` -/
theorem left_associative (o : Oracle) (k : Nat) (t1 t2 : Tok) (mk1 mk2 : Expr → Expr → Expr)
    (a b c : Expr) (Ta Tb Tc : List Tok) (h1 : 1 ≤ k) (h5 : k ≤ 5)
    (o1 : binOpAt k t1 = some mk1) (o2 : binOpAt k t2 = some mk2)
    (ha : R o (k + 1) a Ta) (hb : R o (k + 1) b Tb) (hc : R o (k + 1) c Tc) :
    ParsesTo o ((Ta ++ t1 :: Tb) ++ t2 :: Tc) (mk2 (mk1 a b) c) :=
  parse_render (R.bin o2 (Nat.zero_le _) (R.bin o1 (Nat.le_refl k) (R.weaken ha (by omega)) hb) hc)

/-- **a tighter level binds first, on either side**: with `∘ⱼ` tighter than `∘ₖ`,
    `a ∘ₖ b ∘ⱼ c = a ∘ₖ (b ∘ⱼ c)` and `a ∘ⱼ b ∘ₖ c = (a ∘ⱼ b) ∘ₖ c` -/
theorem tighter_binds_first (o : Oracle) (k j : Nat) (tk tj : Tok) (mkk mkj : Expr → Expr → Expr)
    (a b c : Expr) (Ta Tb Tc : List Tok) (h1 : 1 ≤ k) (hkj : k < j) (h5 : j ≤ 5)
    (ok : binOpAt k tk = some mkk) (oj : binOpAt j tj = some mkj)
    (ha : R o (j + 1) a Ta) (hb : R o (j + 1) b Tb) (hc : R o (j + 1) c Tc) :
    ParsesTo o (Ta ++ tk :: (Tb ++ tj :: Tc)) (mkk a (mkj b c)) ∧
    ParsesTo o ((Ta ++ tj :: Tb) ++ tk :: Tc) (mkk (mkj a b) c) := by
  exact ⟨parse_render (R.bin ok (Nat.zero_le _) (R.weaken ha (by omega)) (R.bin oj (by omega) (R.weaken hb (by omega)) hc)),
    parse_render (R.bin ok (Nat.zero_le _) (R.bin oj (by omega) (R.weaken ha (by omega)) hb) (R.weaken hc (by omega)))⟩

/-- **`x in y` means `y contains x`** -/
theorem in_is_flipped_contains (o : Oracle) (x y : Expr) (Tx Ty : List Tok)
    (hx : R o 8 x Tx) (hy : R o 8 y Ty) :
    ParsesTo o (Tx ++ kwIn :: Ty) (.bin .contains y x) ∧ ParsesTo o (Ty ++ kwContains :: Tx) (.bin .contains y x) :=
  ⟨parse_render (R.bare 0 _ _ (Nat.zero_le _) (Body.isIn y x Ty Tx hy hx)),
   parse_render (R.bare 0 _ _ (Nat.zero_le _) (Body.contains y x Ty Tx hy hx))⟩

/-- **contains / in cannot be chained**: after `a contains b` the parser stops in front of a second `contains` or `in`,
    with that keyword unread (that `parseToks` then answers `.error` is shown for one text: last example below) -/
theorem contains_stops (o : Oracle) (a b : Expr) (Ta Tb rest : List Tok) (t2 : Tok)
    (ht : t2 = kwContains ∨ t2 = kwIn) (ha : R o 8 a Ta) (hb : R o 8 b Tb) :
    ∃ f0, ∀ f, f0 ≤ f → pIf o f ((Ta ++ kwContains :: Tb) ++ t2 :: rest) = .ok (.bin .contains a b) (t2 :: rest) := by
  simpa [PIf, Parses, Ev] using member_stops (.inl rfl) ht ha hb PContTail_contains

/-- alternative spellings denote the same node -/
theorem synonyms :
    binOpAt 2 (.p ['=']) = binOpAt 2 (.p ['=', '=']) ∧
    funcOfKw ['i', 's', '_', 's', 'o', 'm', 'e'] = funcOfKw ['s', 'o', 'm', 'e'] ∧
    funcOfKw ['i', 's', '_', 'n', 'o', 'n', 'e'] = funcOfKw ['n', 'o', 'n', 'e'] ∧
    funcOfKw ['d', 'a', 't', 'e', '_', 't', 'i', 'm', 'e'] = funcOfKw ['d', 'a', 't', 'e', 't', 'i', 'm', 'e'] ∧
    funcOfKw ['t', 'o', '_', 'u', 'p', 'p', 'e', 'r'] = funcOfKw ['u', 'p', 'p', 'e', 'r', 'c', 'a', 's', 'e'] ∧
    funcOfKw ['t', 'o', '_', 'l', 'o', 'w', 'e', 'r'] = funcOfKw ['l', 'o', 'w', 'e', 'r', 'c', 'a', 's', 'e'] :=
  ⟨rfl, by decide, by decide, by decide, by decide, by decide⟩

/-- the table: each operator token belongs to exactly one level, and that level is the level of the node it builds -/
theorem operator_has_one_level (k : Nat) (t : Tok) (mk : Expr → Expr → Expr) (h : binOpAt k t = some mk) :
    1 ≤ k ∧ k ≤ 5 ∧ (∀ j, j ≠ k → binOpAt j t = none) ∧ ∀ l r, lvl (mk l r) = k :=
  ⟨(binOpAt_range h).1, (binOpAt_range h).2, binOpAt_other h, binOpAt_lvl h⟩

/- the hypotheses are satisfiable; concrete texts -/

private def ta : Tok := .ident ['a']
private def tb : Tok := .ident ['b']
private def tc : Tok := .ident ['c']

/-- `a + b * c` is a rendering of `a + (b * c)` -/
example (o : Oracle) :
    R o 0 (.bin .add (.ref ['a']) (.bin .mult (.ref ['b']) (.ref ['c']))) [ta, .p ['+'], tb, .p ['*'], tc] :=
  have leaf (n : Str) (k : Nat) (hk : k ≤ 9) : R o k (.ref n) [.ident n] := R.weaken (R.own (Body.ref n)) hk
  R.bin (k := 3) rfl (Nat.zero_le _) (leaf _ 3 (by omega))
    (R.bin (k := 4) rfl (Nat.le_refl 4) (leaf _ 4 (by omega)) (leaf _ 5 (by omega)))

/-- … and the parser with its own fuel returns exactly that tree; `a - b - c` is `(a - b) - c`;
    `a contains b contains c` is rejected -/
example : parseToks Oracle.empty [ta, .p ['+'], tb, .p ['*'], tc] =
    .ok (.bin .add (.ref ['a']) (.bin .mult (.ref ['b']) (.ref ['c']))) [] := by rfl
example : parseToks Oracle.empty [ta, .p ['-'], tb, .p ['-'], tc] =
    .ok (.bin .sub (.bin .sub (.ref ['a']) (.ref ['b'])) (.ref ['c'])) [] := by rfl
example : parseToks Oracle.empty [ta, kwContains, tb, kwContains, tc] = .error := by rfl

end Reval.C07
