/-
  Props/C12.lean — evaluation is deterministic, free of side effects and schedule-independent.
  The theorems are about the resumption model (`Impl/Async.lean`): tasks share the immutable environment and
  nothing else — that this describes the code is what the hand-polled executor runs of the harness establish.
-/
import RevalModel.Lemmas.Adequacy
import RevalModel.Lemmas.Denote
import RevalModel.Lemmas.Liveness

namespace Reval.C12

/-- the resumption semantics (what the async evaluation does between suspension points) run to completion is the
    big-step semantics — for an expression and for a whole ruleset -/
theorem adequacy (env : Env) (e : Expr) (rules : List Expr) :
    run env (exprTask env e) = eval env [] e St.init ∧
    run env (rulesetTask env rules) = evaluateValue env rules :=
  ⟨Reval.adequacy env e, ruleset_adequacy env rules⟩

/-- a poll never changes what a task will finish with -/
theorem poll_preserves_outcome {α : Type} (env : Env) (susp : Str → Value → Nat → Nat) (t : Task α) :
    run env (pollTask env susp t).res = run env t.res := run_pollTask env susp t

/-- whatever the poll schedule (any interleaving of any number of evaluations, any number of suspensions per call),
    every task finishes with the outcome of running it alone -/
theorem schedule_independent {α : Type} (env : Env) (susp : Str → Value → Nat → Nat) (sched : List Nat) (ts : List (Task α)) :
    (runSched env susp sched ts).map (fun t => run env t.res) = ts.map (fun t => run env t.res) := by
  apply List.ext_getElem?
  intro i
  rw [List.getElem?_map, List.getElem?_map, getElem?_runSched, Option.map_map]
  exact Option.map_congr fun t _ => run_repeat env susp t _

/-- … in particular a task that has completed under some schedule holds exactly the sequential result -/
theorem completed_task_has_sequential_result (env : Env) (susp : Str → Value → Nat → Nat) (sched : List Nat)
    (rulesets : List (List Expr)) (i : Nat) (outs : List (Res Value) × St × List Event) (p : Nat)
    (h : (runSched env susp sched (rulesets.map (fun rs => ⟨rulesetTask env rs, 0⟩)))[i]? = some ⟨.done outs, p⟩) :
    ∃ rs, rulesets[i]? = some rs ∧ outs = evaluateValue env rs := by
  obtain ⟨t, ht, hr⟩ := runSched_outcome env susp sched _ i _ h
  rw [List.getElem?_map, Option.map_eq_some_iff] at ht
  obtain ⟨rs, hrs, rfl⟩ := ht
  exact ⟨rs, hrs, hr.trans (ruleset_adequacy env rs)⟩

/-- abandoning an evaluation midway (dropping its task at any point of any schedule) leaves every other task's
    outcome what it would have been -/
theorem cancellation_harmless {α : Type} (env : Env) (susp : Str → Value → Nat → Nat) (sched sched' : List Nat)
    (ts : List (Task α)) (i : Nat) :
    (runSched env susp sched' ((runSched env susp sched ts).eraseIdx i)).map (fun t => run env t.res) =
      (ts.map (fun t => run env t.res)).eraseIdx i := by
  rw [schedule_independent, map_eraseIdx, schedule_independent]

/-- a fresh evaluation started after any history of completed, failed or abandoned evaluations gives the
    sequential outcome: it is a function of the ruleset, the input and the functions only -/
theorem fresh_evaluation_unaffected (env : Env) (susp : Str → Value → Nat → Nat) (sched sched' : List Nat)
    (old : List (Task (List (Res Value) × St × List Event))) (rules : List Expr) :
    ((runSched env susp sched' (runSched env susp sched old ++ [⟨rulesetTask env rules, 0⟩])).map (fun t => run env t.res)).getLast? =
      some (evaluateValue env rules) := by
  rw [schedule_independent]
  simp [ruleset_adequacy]

/-- determinism with deterministic user functions: the outcome list is the list of state-free denotations —
    the same on every evaluation, whatever ran before -/
theorem deterministic (env : Env) (hd : Deterministic env) (rules : List Expr) :
    (run env (rulesetTask env rules)).1 = rules.map (denote env) := by
  rw [ruleset_adequacy]
  exact evalRules_denote env hd rules 0 St.init (consistent_init env)

/-- an evaluation finishes once the schedule has polled it `need` times — a number fixed by that task alone (one poll
    per user-function call plus the suspensions of each call) — whatever else is polled in between; it then holds the
    sequential result: no evaluation can be starved or blocked by another one -/
theorem fair_schedule_completes {α : Type} (env : Env) (susp : Str → Value → Nat → Nat) (sched : List Nat)
    (ts : List (Task α)) (i : Nat) (t : Task α) (h : ts[i]? = some t) (hf : need env susp t ≤ sched.count i) :
    ∃ p, (runSched env susp sched ts)[i]? = some ⟨.done (run env t.res), p⟩ := by
  obtain ⟨⟨res, p⟩, h1, h2⟩ := need_runSched env susp sched ts i t h
  obtain ⟨a, rfl⟩ := need_zero_done env susp ⟨res, p⟩ (by omega)
  obtain ⟨t0, ht0, hr⟩ := runSched_outcome env susp sched ts i _ h1
  cases h.symm.trans ht0
  exact ⟨p, h1.trans (congrArg (fun a => some (Task.mk (.done a) p)) hr)⟩

/-- … and not before: polled fewer times than that, it is still waiting on a user function (the count is exact) -/
theorem completes_exactly_then {α : Type} (env : Env) (susp : Str → Value → Nat → Nat) (sched : List Nat)
    (ts : List (Task α)) (i : Nat) (t : Task α) (h : ts[i]? = some t) (hf : sched.count i < need env susp t) :
    ∃ t', (runSched env susp sched ts)[i]? = some t' ∧ ∀ a, t'.res ≠ .done a := by
  obtain ⟨t', h1, h2⟩ := need_runSched env susp sched ts i t h
  refine ⟨t', h1, ?_⟩
  intro a ha
  have : need env susp t' = 0 := by simp [need, ha]
  omega

/-! non-vacuity: two evaluations of a ruleset with a suspending function, interleaved -/
def demoEnv : Env := ⟨.map [(['x'], .int 2)], [], [(['g'], ⟨true, fun _ v => .ok v⟩)], Oracle.empty⟩
def demoTasks : List (Task (List (Res Value) × St × List Event)) :=
  [⟨rulesetTask demoEnv [.call ['g'] (.ref ['x']), .call ['g'] (.lit (.int 7))], 1⟩,
   ⟨rulesetTask demoEnv [.bin .add (.call ['g'] (.ref ['x'])) (.lit (.int 1))], 2⟩]
example : ((runSched demoEnv (fun _ _ _ => 1) [0, 1, 1, 0, 1, 0, 0, 1, 0, 1] demoTasks).map (fun t => (run demoEnv t.res).1)) =
    [[.ok (.int 2), .ok (.int 7)], [.ok (.int 3)]] := by decide

example : demoTasks.map (need demoEnv (fun _ _ _ => 1)) = [4, 3] := by decide
example : ((runSched demoEnv (fun _ _ _ => 1) [0, 1, 1, 0, 1, 0] demoTasks).map (fun t => match t.res with | .done _ => true | _ => false)) =
    [false, true] := by decide
example : ((runSched demoEnv (fun _ _ _ => 1) [0, 1, 1, 0, 1, 0, 0] demoTasks).map (fun t => match t.res with | .done _ => true | _ => false)) =
    [true, true] := by decide

end Reval.C12
