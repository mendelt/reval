/-
  Props/C06.lean — parsing any text returns a tree or a parse error, never a panic.
-/
import RevalModel.Lemmas.LexNoPanic
import RevalModel.Lemmas.Strings

namespace Reval.C06

/-- `Expr::parse`: for every text (any characters), every oracle: a tree, a parse error, or a declined
    over-long decimal literal — never a panic -/
theorem parseExpr_total (o : Oracle) (s : Str) : (parseExprText o s).isPanic = false :=
  parseExprText_noPanic o s

/-- `Rule::parse`: likewise -/
theorem parseRule_total (o : Oracle) (s : Str) (site : Site) : parseRuleText o s ≠ .panic site :=
  parseRuleText_noPanic o s site

/-- what makes the grammar actions' prefix slices (`&value[1..]`, `&value[2..]`, `&value[1..len-1]`) safe: every
    token the lexer produces has the text shape its regex guarantees -/
theorem lexer_token_shape (s : Str) (ts : List Tok) (h : lex s = some ts) : ∀ t ∈ ts, TokWF t := lex_wf s ts h

theorem slices_never_panic (o : Oracle) (t : Tok) (h : TokWF t) : (Lit.ofTok o t).isPanic = false :=
  ofTok_noPanic o t h

/-- a list index that does not fit `usize` is a parse error -/
theorem index_out_of_range_is_error (o : Oracle) (f : Nat) (acc : Expr) (ds : Str) (rest : List Tok)
    (h : Str.ofDigits ds > u64Max) :
    pIndexLoop o (f + 1) acc (.p ['.'] :: .index ds :: rest) = .error := by
  have : ¬ Str.ofDigits ds ≤ u64Max := by omega
  simp [pIndexLoop, this]

/-- a decimal integer literal whose body `i128::from_str` refuses is a parse error (`parseI128_out_of_range` gives `h` for
    a body beyond i128) -/
theorem int_literal_out_of_range_is_error (o : Oracle) (body : Str) (h : Str.parseI128 body = none) :
    Lit.ofTok o (.int ('i' :: body)) = .error := by
  simp [Lit.ofTok, Lit.sliceFrom, h]

/-- `hd`: the digits themselves must not begin with a sign, since `parseI128` strips exactly one -/
theorem parseI128_out_of_range (neg : Bool) (ds : Str) (hr : I128.inRange (if neg then -(Str.ofDigits ds : Int) else (Str.ofDigits ds : Int)) = false)
    (hd : ds.head? ≠ some '-' ∧ ds.head? ≠ some '+') :
    Str.parseI128 (if neg then '-' :: ds else ds) = none := by
  have core : parseCore neg ds = none := by
    unfold parseCore
    split
    · rfl
    · simp [I128.checked, hr]
  rw [parseI128_eq, ← core]
  cases neg
  · simp only [Bool.false_eq_true, if_false]
    split
    · exact absurd rfl hd.1
    · exact absurd rfl hd.2
    · rfl
  · rfl

/-- the hexadecimal instance; `0o` / `0b` literals the same way from `parseRadix_out_of_range` -/
theorem radix_literal_out_of_range_is_error (o : Oracle) (ds : Str) (n : Nat) (h16 : Lit.ofRadix 16 ds = some n)
    (hr : I128.inRange (n : Int) = false) :
    Lit.ofTok o (.hex ('0' :: 'x' :: ds)) = .error := by
  rw [Lit.ofTok, sliceFrom_of_le (Nat.le_add_left 2 _)]
  simp [parseRadix_out_of_range h16 hr]

/-- an unknown string escape is a parse error -/
theorem unknown_escape_is_error (f : Nat) (c : Char) (r : Str)
    (h : c ≠ 'n' ∧ c ≠ 'r' ∧ c ≠ 't' ∧ c ≠ '\\' ∧ c ≠ '\'' ∧ c ≠ '"' ∧ c ≠ 'u') :
    Lit.unescapeAux (f + 1) ('\\' :: c :: r) = none := by
  obtain ⟨h1, h2, h3, h4, h5, h6, h7⟩ := h
  simp [Lit.unescapeAux, h1, h2, h3, h4, h5, h6, h7]

/-- eight texts that `unescape` refuses: two surrogates, beyond U+10FFFF, no digits, no braces, a digit that is not
    hexadecimal, beyond 2³², a lone backslash -/
theorem bad_unicode_escapes :
    Lit.unescape "\\u{D800}".toList = none ∧ Lit.unescape "\\u{DFFF}".toList = none ∧
    Lit.unescape "\\u{110000}".toList = none ∧ Lit.unescape "\\u{}".toList = none ∧
    Lit.unescape "\\u41".toList = none ∧ Lit.unescape "\\u{g}".toList = none ∧
    Lit.unescape "\\u{100000000}".toList = none ∧ Lit.unescape "\\".toList = none := by
  simp only [String.reduceToList]; decide

/-! non-vacuity: the input that panicked before the `fix:` commit 903015f is a parse error; valid neighbours parse -/
def isError {α} : PR α → Bool | .error => true | _ => false
def isOk {α} : PR α → Bool | .ok _ _ => true | _ => false
example : isError (parseExprText Oracle.empty "a.18446744073709551616".toList) = true := by decide +kernel
example : isOk (parseExprText Oracle.empty "a.18446744073709551615".toList) = true := by decide +kernel
example : isError (parseExprText Oracle.empty "i170141183460469231731687303715884105728".toList) = true := by decide +kernel
example : isError (parseExprText Oracle.empty "\"\\q\"".toList) = true := by decide +kernel

end Reval.C06
