/-
  Props/C08.lean — literals denote exactly what is written; layout and comments are insignificant.
  Integer and string literals: proved for every value.  Float / decimal literals: the model's conversion is
  *defined* as exact rational arithmetic on the written digits (`F64.ofDecimal`: nearest double, ties to even;
  `parseDecimal`: mantissa and scale as written) and is tied to the code by the correspondence run.
-/
import RevalModel.Lemmas.LexComplete

namespace Reval.C08
open Disp

/-- `i<decimal>` denotes that integer, for every integer of the 128-bit range (sign included) -/
theorem int_literal (o : Oracle) (n : Int) (h : I128.inRange n = true) :
    Lit.ofTok o (.int ('i' :: showInt n)) = .ok (.int n) [] := int_token_value o n h

/-- … and the numeral of `n` converts to `n` exactly when `n` is in the 128-bit range -/
theorem int_literal_range (n : Int) : Str.parseI128 (showInt n) = some n ↔ I128.inRange n = true :=
  ⟨parseI128_inRange, parseI128_showInt n⟩

/-- `0x… / 0o… / 0b…` denote the positional value of their digits in that radix (non-negative half of i128) -/
theorem radix_literal (o : Oracle) (ds : Str) (n : Nat) (hne : ds ≠ []) (hin : I128.inRange (n : Int) = true) :
    (Lit.ofRadix 16 ds = some n → Lit.ofTok o (.hex ('0' :: 'x' :: ds)) = .ok (.int n) []) ∧
    (Lit.ofRadix 8 ds = some n → Lit.ofTok o (.oct ('0' :: 'o' :: ds)) = .ok (.int n) []) ∧
    (Lit.ofRadix 2 ds = some n → Lit.ofTok o (.bin ('0' :: 'b' :: ds)) = .ok (.int n) []) := by
  have hs : ∀ a b : Char, Lit.sliceFrom 2 (a :: b :: ds) = some ds := by intro a b; simp [Lit.sliceFrom]
  have he : ds.isEmpty = false := by cases ds <;> simp_all
  refine ⟨?_, ?_, ?_⟩ <;> intro h <;>
    simp only [Lit.ofTok, hs, Lit.parseRadix, he, h, I128.checked, hin] <;> simp

/-- the positional value, digit by digit: one more digit `d` multiplies what was read by the radix and adds `d` -/
theorem ofRadix_snoc (r : Nat) (ds : Str) (c : Char) (a d : Nat) (ha : Lit.ofRadix r ds = some a)
    (hd : Lit.hexDigitVal c = some d) (hlt : d < r) : Lit.ofRadix r (ds ++ [c]) = some (a * r + d) := by
  unfold Lit.ofRadix at *
  rw [List.foldl_append, ha]
  simp [hd, hlt]

/-- a double-quoted string with `\\` and `\"` escaped (every other character verbatim) denotes exactly that string -/
theorem string_literal (o : Oracle) (s : Str) :
    Lit.ofTok o (.str ('"' :: escapeStr s ++ ['"'])) = .ok (.str s) [] := str_token_value o s

/-- characters other than the backslash are kept verbatim -/
theorem raw_chars_verbatim (s : Str) (h : ∀ c ∈ s, c ≠ '\\') : ∀ f, s.length < f → Lit.unescapeAux f s = some s := by
  induction s with
  | nil => intro f _; cases f <;> simp [Lit.unescapeAux]
  | cons c cs ih =>
    intro f hf
    cases f with
    | zero => simp at hf
    | succ f =>
      have hc : c ≠ '\\' := h c (by simp)
      have := ih (fun x hx => h x (by simp [hx])) f (by simpa using hf)
      simp [Lit.unescapeAux, hc, this]

/-- the escape table as nine instances: each of `\n \r \t \\ \' \"` alone, `\u{hex}` at two code points, one mixed string -/
theorem escape_table :
    Lit.unescape "\\n".toList = some ['\n'] ∧ Lit.unescape "\\r".toList = some ['\r'] ∧
    Lit.unescape "\\t".toList = some ['\t'] ∧ Lit.unescape "\\\\".toList = some ['\\'] ∧
    Lit.unescape "\\'".toList = some ['\''] ∧ Lit.unescape "\\\"".toList = some ['"'] ∧
    Lit.unescape "\\u{41}".toList = some ['A'] ∧ Lit.unescape "\\u{10FFFF}".toList = some [Char.ofNat 0x10FFFF] ∧
    Lit.unescape "a\\nb\\u{e9}".toList = some ['a', '\n', 'b', 'é'] := by
  simp only [String.reduceToList]; decide

/-- float literal: the nearest double to the written decimal numeral (so by definition of the conversion: see above) -/
theorem float_literal (o : Oracle) (b : Str) :
    Lit.ofTok o (.float ('f' :: b)) =
      .ok (.float (F64.ofDecimal (Lit.splitNumber b).1 (Lit.splitNumber b).2.1
        ((Lit.splitNumber b).2.2.2 - ((Lit.splitNumber b).2.2.1 : Int)))) [] := by
  simp [Lit.ofTok, Lit.sliceFrom, Lit.parseFloat]

/-- decimal literal: mantissa = the written digits, scale = the number of fraction digits written (preserved),
    whenever they fit the type; `-0` is `+0` -/
theorem decimal_literal (o : Oracle) (b : Str)
    (hfit : (Lit.splitNumber b).2.2.1 ≤ 28 ∧ (Lit.splitNumber b).2.1 ≤ Dec.maxMant) :
    Lit.ofTok o (.dec ('d' :: b)) =
      .ok (.dec ⟨(Lit.splitNumber b).1 && (Lit.splitNumber b).2.1 != 0, (Lit.splitNumber b).2.1, (Lit.splitNumber b).2.2.1⟩) [] := by
  simp [Lit.ofTok, Lit.sliceFrom, Lit.parseDecimal, hfit.1, hfit.2]

/-- a word is a keyword exactly when it is one of the keyword spellings, otherwise an identifier -/
theorem keyword_iff_exact (c : Char) (rest : Str) :
    let w := c :: rest.take (Lex.countWhile Lex.isIdc rest)
    (w ∈ Lex.keywords → Lex.wordTok c rest = .kw w) ∧ (w ∉ Lex.keywords → Lex.wordTok c rest = .ident w) := by
  intro w
  rw [LexC.wordTok_eq, LexC.wordOf]
  exact ⟨fun h => if_pos (List.contains_iff_mem.2 h), fun h => if_neg fun hc => h (List.contains_iff_mem.1 hc)⟩

/-- layout: a run of White_Space characters of any length and kind is skipped as a whole; a `//` comment is
    skipped up to and including its line end(s) -/
theorem layout_skipped (c : Char) (cs : Str) (hc : Str.isWhite c = true) :
    Lex.step (c :: cs) = some (none, cs.dropWhile Str.isWhite) ∧
    Lex.step ('/' :: '/' :: cs) = some (none, (cs.dropWhile (fun ch => !Lex.isEol ch)).dropWhile Lex.isEol) :=
  ⟨LexC.step_white hc cs, LexC.step_comment cs⟩

/-- **layout is insignificant**: a leading gap, then tokens of the vocabulary each followed by a gap (White_Space
    characters and `//` comments, each comment closed by at least one line end; non-empty between two tokens): the text
    lexes to exactly those tokens.  Not covered: a comment that ends the text without a line end.  Excluded, because the
    lexer really has it: a `/` token directly followed by a comment (`///…` is one comment; known finding). -/
theorem layout_insignificant (lead : List LexC.Piece) (items : List (Tok × Str × List LexC.Piece))
    (hl : ∀ p ∈ lead, p.OK) (h : LexC.GappedOK items) :
    lex (LexC.gapText lead ++ LexC.gapped items) = some (items.map (·.1)) := LexC.lex_gapped lead items hl h

/-- hence two texts with the same tokens and different gaps parse to the same result -/
theorem layout_same_tree (o : Oracle) (lead lead' : List LexC.Piece) (items items' : List (Tok × Str × List LexC.Piece))
    (hl : ∀ p ∈ lead, p.OK) (hl' : ∀ p ∈ lead', p.OK) (h : LexC.GappedOK items) (h' : LexC.GappedOK items')
    (same : items.map (·.1) = items'.map (·.1)) :
    parseExprText o (LexC.gapText lead ++ LexC.gapped items) = parseExprText o (LexC.gapText lead' ++ LexC.gapped items') := by
  simp only [parseExprText, layout_insignificant lead items hl h, layout_insignificant lead' items' hl' h', same]

/-- a layout of a token list: every token as the text it carries, then a gap — non-empty between two tokens, no comment
    directly after a `/` -/
def GapsOK : List (Tok × Str × List LexC.Piece) → Prop
  | [] => True
  | (t, w, g) :: rest => w = LexC.tokText t ∧ (∀ p ∈ g, p.OK) ∧ LexC.SlashOK w g ∧ (rest ≠ [] → g ≠ []) ∧ GapsOK rest

theorem gappedOK_of_vocabulary : ∀ (items : List (Tok × Str × List LexC.Piece)),
    (∀ it ∈ items, LexC.PTok it.1 (LexC.tokText it.1)) → GapsOK items → LexC.GappedOK items := by
  intro items
  induction items with
  | nil => intro _ _; trivial
  | cons it rest ih =>
    obtain ⟨t, w, g⟩ := it
    intro hv hg
    obtain ⟨rfl, h1, h2, h3, h4⟩ := hg
    exact ⟨hv (t, _, g) List.mem_cons_self, h1, h2, h3, ih (fun it hit => hv it (List.mem_cons_of_mem _ hit)) h4⟩

/-- **… for every text**: the tokens `T` of ANY text the lexer accepts (floats with exponents, radix literals, strings
    with any escapes, `i5x`-like identifiers), written out again with such gaps before and between them, lex to exactly `T` -/
theorem layout_insignificant_general (s : Str) (T : List Tok) (h : lex s = some T)
    (lead : List LexC.Piece) (items : List (Tok × Str × List LexC.Piece)) (hl : ∀ p ∈ lead, p.OK)
    (hT : items.map (·.1) = T) (hg : GapsOK items) :
    lex (LexC.gapText lead ++ LexC.gapped items) = some T := by
  have hv : ∀ it ∈ items, LexC.PTok it.1 (LexC.tokText it.1) := by
    intro it hit
    exact LexC.lex_ptok s T h it.1 (by rw [← hT]; exact List.mem_map_of_mem hit)
  rw [← hT]
  exact layout_insignificant lead items hl (gappedOK_of_vocabulary items hv hg)

/-- … hence every such re-layout of a text parses to what the text itself parses to (tree, or rejection) -/
theorem layout_same_tree_general (o : Oracle) (s : Str) (T : List Tok) (h : lex s = some T)
    (lead : List LexC.Piece) (items : List (Tok × Str × List LexC.Piece)) (hl : ∀ p ∈ lead, p.OK)
    (hT : items.map (·.1) = T) (hg : GapsOK items) :
    parseExprText o (LexC.gapText lead ++ LexC.gapped items) = parseExprText o s := by
  simp only [parseExprText, layout_insignificant_general s T h lead items hl hT hg, h]

/-- for the test vectors below: whether a concrete piece of layout is well-formed is decided by evaluation -/
instance : DecidablePred LexC.Piece.OK := fun p => by cases p <;> unfold LexC.Piece.OK <;> infer_instance

theorem notSlash {w : Str} {g : List LexC.Piece} (h : w ≠ ['/']) : LexC.SlashOK w g := fun e => absurd e h

/-- non-vacuity: `f-1.5e+3*0xFF+"a\qb"` (tokens touching) re-laid out with a comment, a tab and a line break -/
example : lex (LexC.gapText [.white ' '] ++ LexC.gapped
      [(.float "f-1.5e+3".toList, "f-1.5e+3".toList, [.comment ['x'] ['\n']]), (.p ['*'], ['*'], [.white '\t']),
       (.hex "0xFF".toList, "0xFF".toList, [.white '\n']), (.p ['+'], ['+'], [.white ' ']),
       (.str "\"a\\qb\"".toList, "\"a\\qb\"".toList, [])]) =
    some [.float "f-1.5e+3".toList, .p ['*'], .hex "0xFF".toList, .p ['+'], .str "\"a\\qb\"".toList] := by
  simp only [String.reduceToList]
  refine layout_insignificant_general ['f', '-', '1', '.', '5', 'e', '+', '3', '*', '0', 'x', 'F', 'F', '+', '"', 'a', '\\', 'q', 'b', '"'] _
    (by decide +kernel) _ _ (by decide) rfl ?_
  exact ⟨rfl, by decide, notSlash (by decide), by simp, rfl, by decide, notSlash (by decide), by simp,
    rfl, by decide, notSlash (by decide), by simp, rfl, by decide, notSlash (by decide), by simp,
    rfl, by simp, notSlash (by decide), by simp, trivial⟩

/-- the exclusion is real (the recorded known finding): a comment directly after `/` swallows the operator -/
theorem slash_then_comment_is_one_comment :
    lex "a///c\nb".toList = some [.ident ['a'], .ident ['b']] ∧
    lex "a/ //c\nb".toList = some [.ident ['a'], .p ['/'], .ident ['b']] := by
  constructor <;> decide +kernel

/-- non-vacuity: `a` TAB `//x` CR LF NBSP `+` U+3000 `b` -/
example : LexC.GappedOK
    [(.ident ['a'], ['a'], [.white '\t', .comment ['x'] ['\r', '\n'], .white '\u00a0']),
     (.p ['+'], ['+'], [.white '\u3000']), (.ident ['b'], ['b'], [])] := by
  have ha : LexC.NameOK ['a'] := ⟨'a', [], rfl, by decide, by decide, LexC.NumFree.of_noDigit (by intro _ a r e; cases e), by decide⟩
  have hb : LexC.NameOK ['b'] := ⟨'b', [], rfl, by decide, by decide, LexC.NumFree.of_noDigit (by intro _ a r e; cases e), by decide⟩
  exact ⟨.ident _ ha, by decide, notSlash (by decide), by simp, .p1 '+' (by decide), by decide, notSlash (by decide), by simp,
    .ident _ hb, by simp, notSlash (by decide), by simp, trivial⟩

/-! the collision list of the property, as tests -/
def toks (s : String) : Option (List Tok) := lex s.toList
example : toks "int inty i5 i5x f1e f1e5 d5 d5x in inx" =
    some [.kw "int".toList, .ident "inty".toList, .int "i5".toList, .ident "i5x".toList, .ident "f1e".toList,
          .float "f1e5".toList, .dec "d5".toList, .ident "d5x".toList, .kw "in".toList, .ident "inx".toList] := by
  simp only [toks, String.reduceToList]; decide +kernel
example : toks "a //c\r\n\t+ b" = some [.ident ['a'], .p ['+'], .ident ['b']] := by decide +kernel

end Reval.C08
