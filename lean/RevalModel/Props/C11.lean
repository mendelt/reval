/-
  Props/C11.lean — user-function caching is transparent, per evaluation and per argument.
-/
import RevalModel.Lemmas.Cache
import RevalModel.Lemmas.Denote

namespace Reval.C11

/-- every ruleset evaluation starts from the empty cache (the definition of `evaluateValue`, unfolded) -/
theorem fresh_per_evaluation (env : Env) (rules : List Expr) :
    evaluateValue env rules = evalRules env 0 rules ⟨[], 0⟩ := rfl

/-- within one ruleset evaluation the cache is exactly the list of the invocations that the log marks as cached (most
    recent first) — the flag `callFn` sets where it stores a result: on a successful invocation of a cacheable function … -/
theorem cache_is_the_successful_cacheable_invocations (env : Env) (rules : List Expr) :
    (evaluateValue env rules).2.1.cache = (cachedEntries (evaluateValue env rules).2.2).reverse :=
  (evalRules_grows env rules 0 St.init).of_init.1

/-- … and no (function, argument) occurs twice among them -/
theorem at_most_once (env : Env) (rules : List Expr) :
    ((cachedEntries (evaluateValue env rules).2.2).map Prod.fst).Nodup :=
  (evalRules_grows env rules 0 St.init).of_init.2

/-- a call whose (function, argument) is in the cache returns the cached result and invokes nothing -/
theorem hit_returns_cached_without_invoking (env : Env) (f : Str) (fm : FnModel) (a v : Value) (st : St)
    (hf : lookup env.fns f = some fm) (hc : fm.cacheable = true) (h : cacheGet st.cache (f, a) = some v) :
    callFn env f a st = (.ok v, st, []) := by
  simp [callFn, hf, hc, h]

/-- … and an entry, once made, stays for the rest of the evaluation (through any sub-expression and any
    number of further rules): later calls observe the first result -/
theorem later_calls_observe_first (env : Env) (rp : List Nat) (e : Expr) (rules : List Expr) (i : Nat) (st : St)
    (k : Str × Value) (v : Value) (hn : (st.cache.map Prod.fst).Nodup) (h : cacheGet st.cache k = some v) :
    cacheGet (eval env rp e st).2.1.cache k = some v ∧ cacheGet (evalRules env i rules st).2.1.cache k = some v :=
  -- (`hn` is not needed: an entry is only ever stored under a key that is absent, see `Grows`)
  ⟨(eval_grows env rp e st).persist k v h, (evalRules_grows env rules i st).persist k v h⟩

/-- what the final cache holds under a (function, argument) is the value of an invocation of that function with that
    argument which the log marks as cached -/
theorem no_cross_reuse (env : Env) (rules : List Expr) (f : Str) (a v : Value)
    (h : cacheGet (evaluateValue env rules).2.1.cache (f, a) = some v) :
    ((f, a), v) ∈ cachedEntries (evaluateValue env rules).2.2 := by
  have hm := cacheGet_mem _ _ _ h
  rw [cache_is_the_successful_cacheable_invocations] at hm
  exact List.mem_reverse.1 hm

/-- a miss invokes the function with exactly this argument; success is cached, failure is not -/
theorem miss_invokes_and_caches_success_only (env : Env) (f : Str) (fm : FnModel) (a : Value) (st : St)
    (hf : lookup env.fns f = some fm) (hc : fm.cacheable = true) (h : cacheGet st.cache (f, a) = none) :
    callFn env f a st =
      match fm.behave st.calls a with
      | .ok v => (.ok v, ⟨((f, a), v) :: st.cache, st.calls + 1⟩, [.invoke f a st.calls (some v) true])
      | .error msg => (.err (.userFn f msg), ⟨st.cache, st.calls + 1⟩, [.invoke f a st.calls none false]) := by
  cases hb : fm.behave st.calls a <;> simp [callFn, hf, hc, h, hb]

/-- failed calls are not remembered: the cache is unchanged, so the next call invokes again -/
theorem failures_not_cached (env : Env) (f : Str) (fm : FnModel) (a : Value) (st : St) (msg : Str)
    (hf : lookup env.fns f = some fm) (hb : fm.behave st.calls a = .error msg) :
    (callFn env f a st).2.1.cache = st.cache ∧ (callFn env f a st).1 = .err (.userFn f msg) ∨
    (∃ v, cacheGet st.cache (f, a) = some v) := by
  by_cases hc : fm.cacheable = true
  · cases hg : cacheGet st.cache (f, a) with
    | some v => exact Or.inr ⟨v, rfl⟩
    | none => left; simp [callFn, hf, hc, hg, hb]
  · left; simp [callFn, invokeFn, hf, hc, hb]

/-- a function that declares itself non-cacheable is invoked on every call, and never touches the cache -/
theorem non_cacheable_always_invoked (env : Env) (f : Str) (fm : FnModel) (a : Value) (st : St)
    (hf : lookup env.fns f = some fm) (hc : fm.cacheable = false) :
    invokedCalls (callFn env f a st).2.2 = [(f, a)] ∧ (callFn env f a st).2.1.cache = st.cache := by
  cases hb : fm.behave st.calls a <;> simp [callFn, hf, hc, invokeFn, hb, invokedCalls]

/-- a user function's failure surfaces as an error naming the function and carrying the original error -/
theorem error_wraps_name (env : Env) (f : Str) (fm : FnModel) (a : Value) (st : St) (msg : Str)
    (hf : lookup env.fns f = some fm) (hmiss : cacheGet st.cache (f, a) = none)
    (hb : fm.behave st.calls a = .error msg) :
    (callFn env f a st).1 = .err (.userFn f msg) := by
  by_cases hc : fm.cacheable = true
  · simp [callFn, hf, hc, hmiss, hb]
  · simp [callFn, invokeFn, hf, hc, hb]

/-- with functions whose result depends on the argument only, the outcomes of a ruleset are the same whichever functions
    are declared cacheable (any assignment `c`): caching can save invocations, never change a result -/
theorem caching_is_transparent (env : Env) (hd : Deterministic env) (c : Str → Bool) (rules : List Expr) :
    (evaluateValue (env.withCacheable c) rules).1 = (evaluateValue env rules).1 :=
  evalRules_withCacheable env hd c rules 0 0 _ _ (consistent_init _) (consistent_init _)

/-- … and a single expression likewise, from the empty cache (`eval_withCacheable`: from any two cache states consistent
    with the functions) -/
theorem caching_is_transparent_expr (env : Env) (hd : Deterministic env) (c : Str → Bool) (rp : List Nat) (e : Expr) :
    (eval (env.withCacheable c) rp e St.init).1 = (eval env rp e St.init).1 :=
  eval_withCacheable env hd c rp e _ _ (consistent_init _) (consistent_init _)

/-! non-vacuity: g(i1), g("1"), g(i1) with a counting cacheable g — two invocations, third call is a hit -/
def demoEnv : Env := ⟨.none, [], [(['g'], ⟨true, fun i _ => .ok (.int i)⟩)], Oracle.empty⟩
example :
    (evaluateValue demoEnv [.vec [.call ['g'] (.lit (.int 1)), .call ['g'] (.lit (.str ['1'])), .call ['g'] (.lit (.int 1))]]).1
      = [.ok (.vec [.int 0, .int 1, .int 0])] := by decide

/-- the hypothesis of `caching_is_transparent` is satisfiable: an environment whose function ignores the call counter -/
def pureEnv : Env := ⟨.none, [], [(['g'], ⟨true, fun _ v => .ok v⟩)], Oracle.empty⟩
example : Deterministic pureEnv := by
  intro f fm h i a
  simp only [pureEnv, lookup] at h
  split at h
  · simp only [Option.some.injEq] at h; subst h; rfl
  · simp at h
example : (evaluateValue (pureEnv.withCacheable (fun _ => false)) [.call ['g'] (.lit (.int 4))]).1 = [.ok (.int 4)] := by decide

end Reval.C11
