/-
  Props/C14.lean — a rule's name, description, metadata and expression are extracted exactly.
  Theorems about `parseRuleText` = lex ∘ `pRule` ∘ `builderParse` ∘ comment scan, stated on its stages.
-/
import RevalModel.Impl.RuleParse
import RevalModel.Lemmas.Sorted

/-! `str::lines` as modelled (`splitInclusive` + `stripEol`): the pieces concatenate to the text, a line feed can only be
the last character of a piece, and a stripped line contains none. -/

namespace Reval.RuleParse

theorem splitInclusive_flatten (s cur : Str) : (splitInclusive s cur).flatten = cur.reverse ++ s := by
  fun_induction splitInclusive s cur <;> simp_all

theorem splitInclusive_pieces (s cur : Str) (hc : '\n' ∉ cur) :
    ∀ p ∈ splitInclusive s cur, ∃ body, (p = body ++ ['\n'] ∨ p = body) ∧ '\n' ∉ body := by
  fun_induction splitInclusive s cur
  · simp
  · intro p hp; exact ⟨p, Or.inr rfl, by simp_all⟩
  · rename_i c r cur hnl ih
    obtain rfl : c = '\n' := by simpa using hnl
    intro p hp
    rcases List.mem_cons.1 hp with rfl | hp
    · exact ⟨cur.reverse, Or.inl (by simp), by simpa using hc⟩
    · exact ih (by simp) p hp
  · rename_i c r cur hnl ih
    exact ih (by simp only [List.mem_cons, not_or]; exact ⟨fun e => hnl (by simp [← e]), hc⟩)

theorem stripEol_no_newline (body : Str) (h : '\n' ∉ body) :
    '\n' ∉ stripEol (body ++ ['\n']) ∧ '\n' ∉ stripEol body := by
  have hr : '\n' ∉ body.reverse := by simpa using h
  constructor
  · unfold stripEol
    rw [List.reverse_append, List.reverse_singleton, List.singleton_append]
    split
    · rename_i r heq; rw [(List.cons.inj heq).2] at hr; simp_all
    · rename_i r _ heq; rw [← (List.cons.inj heq).2]; simpa using h
    · rename_i h2; exact absurd rfl (h2 _)
  · unfold stripEol
    split <;> simp_all

end Reval.RuleParse

namespace Reval.C14
open RuleParse

/-- `Rule::parse` factors into its stages (and fails with RuleParseError when any stage does) -/
theorem parse_factors (o : Oracle) (s : Str) (ts : List Tok) (metas : List (Str × Expr)) (e : Expr) (rest : List Tok)
    (name : Option Str) (md : List (Str × Value))
    (hl : lex s = some ts) (hp : pRule o (ts.length + 2) ts [] = .ok (metas, e) rest)
    (hb : builderParse metas none [] = some (name, md)) :
    parseRuleText o s = assemble name md e (commentLines s) := by
  simp only [parseRuleText, hl, hp, hb]

/-- the name: a name from `@name` (which one, if several: `metadata_step`) wins over the comments; otherwise the first
    comment line (already trimmed by `commentLines`); neither ⇒ the missing-name error -/
theorem name_precedence (n : Str) (md : List (Str × Value)) (e : Expr) (cl : List Str) (c : Str) :
    (∃ md', assemble (some n) md e cl = .ok ⟨n, md', e⟩) ∧
    (∃ md', assemble none md e (c :: cl) = .ok ⟨c, md', e⟩) ∧
    assemble none md e [] = .missingName := by
  refine ⟨?_, ?_, by simp [assemble]⟩
  · cases cl with
    | nil => exact ⟨md, by simp [assemble]⟩
    | cons a t => cases t <;> simp [assemble]
  · cases cl <;> simp [assemble]

/-- the description: without an `@description` entry, the comment lines after the first, joined by newlines; for a rule
    named by `@name`, an `@description` entry, or a single comment line, leaves the metadata as written -/
theorem description_rule (name : Option Str) (md : List (Str × Value)) (e : Expr) (c d : Str) (ds : List Str) (n : Str) (r : RuleOut) :
    (lookup md descKey = none → assemble name md e (c :: d :: ds) = .ok r →
      r.description = some (joinNl (d :: ds))) ∧
    ((lookup md descKey).isSome = true → assemble (some n) md e (c :: d :: ds) = .ok r → r.metadata = md) ∧
    (assemble (some n) md e [c] = .ok r → r.metadata = md) := by
  refine ⟨?_, ?_, ?_⟩
  · intro hn h
    cases name <;> simp [assemble, hn] at h <;> subst h <;>
      simp [RuleOut.description, lookup_insertSorted_self]
  · intro hs h; simp [assemble, hs] at h; subst h; rfl
  · intro h; simp [assemble] at h; subst h; rfl

theorem joinNl_two (a b : Str) : joinNl [a, b] = a ++ '\n' :: b := rfl

/-- metadata: one entry per `@key` other than `name`, holding the constant written; the last occurrence of a key
    wins; `@name` must be a string; a non-constant value is rejected -/
theorem metadata_step (k : Str) (e : Expr) (rest : List (Str × Expr)) (name : Option Str) (md : List (Str × Value)) (v : Value) (s : Str) :
    (k ≠ nameKey → flatten e = some v →
      builderParse ((k, e) :: rest) name md = builderParse rest name (insertSorted k v md)) ∧
    (flatten e = some (.str s) → builderParse ((nameKey, e) :: rest) name md = builderParse rest (some s) md) ∧
    (flatten e = some v → (∀ s, v ≠ .str s) → builderParse ((nameKey, e) :: rest) name md = none) ∧
    (flatten e = none → builderParse ((k, e) :: rest) name md = none) := by
  refine ⟨?_, ?_, ?_, ?_⟩
  · intro hk hf; simp [builderParse, hf, hk]
  · intro hf; simp [builderParse, hf]
  · intro hf hv; cases v <;> simp_all [builderParse]
  · intro hf; simp [builderParse, hf]

/-- the three equations of `flatten` on constants, one level: a literal is its value, a list and a map go through
    `flattenList` / `flattenMap` (the map collected into a sorted map, a later duplicate key winning) -/
theorem flatten_constants (v : Value) (xs : List Expr) (kvs : List (Str × Expr)) :
    flatten (.lit v) = some v ∧
    flatten (.vec xs) = (flattenList xs).map .vec ∧
    flatten (.map kvs) = (flattenMap kvs).map (fun m => .map (m.foldl (fun acc kv => insertSorted kv.1 kv.2 acc) [])) := by
  simp [flatten]

theorem flattenList_cons (e : Expr) (es : List Expr) (v : Value) (h : flatten e = some v) :
    flattenList (e :: es) = (flattenList es).map (v :: ·) := by simp [flattenList, h]

/-- nine of the eleven non-constant forms (`.or` and `.neq` are not listed) -/
theorem nonconstant_rejected (l r c t f : Expr) (op : BinOp) (uop : UnOp) (n : Str) (i : Index) :
    flatten (.bin op l r) = none ∧ flatten (.un uop l) = none ∧ flatten (.ref n) = none ∧ flatten (.sym n) = none ∧
    flatten (.call n l) = none ∧ flatten (.ite c t f) = none ∧ flatten (.index l i) = none ∧
    flatten (.and l r) = none ∧ flatten (.eq l r) = none := by
  simp [flatten]

theorem pRule_expr (o : Oracle) (f : Nat) (ts : List Tok) (acc : List (Str × Expr))
    (h : ∀ k r, ts ≠ .p ['@'] :: .ident k :: .p [':'] :: r) :
    pRule o (f + 1) ts acc = match pIf o (parseFuel ts) ts with
      | .ok e [] => .ok (acc.reverse, e) []
      | .ok _ (_ :: _) => .error
      | .error => .error
      | .panic x => .panic x
      | .frontier op a => .frontier op a := by
  rw [pRule]
  · rfl
  · exact h

/-- the expression: once the `@key: value;` prefix is consumed, what is parsed is the remaining tokens as one
    stand-alone expression (same parser, whole input); the rule parse fails when that expression does -/
theorem expr_is_standalone (o : Oracle) (f : Nat) (ts : List Tok) (acc : List (Str × Expr))
    (h : ∀ k r, ts ≠ .p ['@'] :: .ident k :: .p [':'] :: r) :
    (∀ e, pIf o (parseFuel ts) ts = .ok e [] → pRule o (f + 1) ts acc = .ok (acc.reverse, e) []) ∧
    (pIf o (parseFuel ts) ts = .error → pRule o (f + 1) ts acc = .error) ∧
    (∀ e t r, pIf o (parseFuel ts) ts = .ok e (t :: r) → pRule o (f + 1) ts acc = .error) := by
  rw [pRule_expr o f ts acc h]
  exact ⟨fun e he => by rw [he], fun he => by rw [he], fun e t r he => by rw [he]⟩

/-- a metadata item `@k: e;` in front: its expression is parsed by the same expression parser, then the rest -/
theorem meta_item_step (o : Oracle) (f : Nat) (k : Str) (r r2 : List Tok) (acc : List (Str × Expr)) (e : Expr)
    (h : pIf o (parseFuel (.p ['@'] :: .ident k :: .p [':'] :: r)) r = .ok e (.p [';'] :: r2)) :
    pRule o (f + 1) (.p ['@'] :: .ident k :: .p [':'] :: r) acc = pRule o f r2 ((k, e) :: acc) := by
  rw [pRule]; simp [h]

/-- the line scan of `Rule::parse` loses nothing and never looks across a line end: the pieces concatenate to the text,
    and no line handed to the comment test contains a line feed -/
theorem lines_partition (s : Str) :
    (splitInclusive s []).flatten = s ∧ ∀ l ∈ lines s, '\n' ∉ l := by
  refine ⟨by simpa using splitInclusive_flatten s [], fun l hl => ?_⟩
  obtain ⟨p, hp, rfl⟩ := List.mem_map.1 hl
  obtain ⟨body, hb | hb, hn⟩ := splitInclusive_pieces s [] (by simp) p hp
  · rw [hb]; exact (stripEol_no_newline body hn).1
  · rw [hb]; exact (stripEol_no_newline body hn).2

/-- a text is a comment line of the rule exactly when some line of it, after its leading white space, starts with `//`;
    the comment is the rest of that line, trimmed -/
theorem comment_line_iff (s c : Str) :
    c ∈ commentLines s ↔ ∃ l ∈ lines s, ∃ r, Str.trimStart l = '/' :: '/' :: r ∧ c = Str.trim r := by
  unfold commentLines
  simp only [List.mem_filterMap]
  constructor
  · rintro ⟨l, hl, h⟩
    split at h
    · rename_i r heq; cases h; exact ⟨l, hl, r, heq, rfl⟩
    · cases h
  · rintro ⟨l, hl, r, heq, rfl⟩
    exact ⟨l, hl, by rw [heq]; rfl⟩

/-! comment scan, as tests on concrete texts (the scan is line-based: `str::lines`, `trim_start`, `//`, `trim`) -/
example : commentLines "  // a b  \r\n@k: i1; //not\n\t//\tc\n//\nx // y".toList = ["a b".toList, "c".toList, []] := by
  simp only [String.reduceToList]; decide
example : lines "a\r\nb\n\nc\r".toList = ["a".toList, "b".toList, [], "c\r".toList] := by
  simp only [String.reduceToList]; decide

end Reval.C14
