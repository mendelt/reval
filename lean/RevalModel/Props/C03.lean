/-
  Props/C03.lean — operators never coerce operands between types.
-/
import RevalModel.Lemmas.NoneType
import RevalModel.Lemmas.KeepsType

namespace Reval.C03

/-- a combination of non-None operand types that the signature does not list is a type error -/
theorem unsupported_is_type_error (o : Oracle) (op : BinOp) (a b : Value)
    (ha : a ≠ .none) (hb : b ≠ .none) (h : (a.ty, b.ty) ∉ op.sig) :
    applyBin o op a b = .err .invalidType := by
  rw [applyBin_eq_table]; exact tableBin_unsupported o op a b (mt (ty_none_iff a).1 ha) (mt (ty_none_iff b).1 hb) h

theorem unsupported_unary_is_type_error (o : Oracle) (op : UnOp) (v : Value) (hv : v ≠ .none) (h : v.ty ∉ op.sig) :
    applyUn o op v = .err .invalidType := by
  rw [applyUn_eq_table]; exact tableUn_unsupported o op v hv h

def numeric : List Ty := [.int, .float, .dec]

/-- no operator's signature mixes Int, Float and Decimal (the table is finite: decided by evaluation) -/
theorem no_mixed_numeric :
    ∀ op ∈ BinOp.all, ∀ t₁ ∈ numeric, ∀ t₂ ∈ numeric, t₁ ≠ t₂ → (t₁, t₂) ∉ op.sig := by decide

/-- hence every mix of Int / Float / Decimal operands is a type error, for every operator and value -/
theorem mixed_numeric_is_type_error (o : Oracle) (op : BinOp) (a b : Value)
    (ha : a.ty ∈ numeric) (hb : b.ty ∈ numeric) (hne : a.ty ≠ b.ty) :
    applyBin o op a b = .err .invalidType := by
  apply unsupported_is_type_error
  · intro e; subst e; simp [numeric, Value.ty] at ha
  · intro e; subst e; simp [numeric, Value.ty] at hb
  · exact no_mixed_numeric op (BinOp.mem_all op) _ ha _ hb hne

/-- `==` between literals of different types is false (and `!=` true); for any operands: `eval_eq_ok` with `peq_diff_ty` -/
theorem eq_cross_type_false (env : Env) (rp : List Nat) (a b : Value) (st : St)
    (ha : a ≠ .none) (h : a.ty ≠ b.ty) :
    eval env rp (.eq (.lit a) (.lit b)) st = (.ok (.bool false), st, []) ∧
    eval env rp (.neq (.lit a) (.lit b)) st = (.ok (.bool true), st, []) := by
  simpa [peq_diff_ty a b h] using eval_eq_ok env rp _ _ a b st st st [] [] (eval_lit ..) ha (eval_lit ..)

/-- a condition that is a non-boolean literal is a type error; for any condition: `eval_ite_nonbool` -/
theorem cond_requires_bool (env : Env) (rp : List Nat) (v : Value) (t e : Expr) (st : St) (h : v.ty ≠ .bool) :
    eval env rp (.ite (.lit v) t e) st = (.err .invalidType, st, []) :=
  eval_ite_nonbool env rp _ t e st st [] v (eval_lit ..) h

/-- a non-boolean literal as left operand of `and` / `or` is a type error; for any operand: `eval_nonbool_left` -/
theorem logic_left_requires_bool (env : Env) (rp : List Nat) (v : Value) (r : Expr) (st : St) (h : v.ty ≠ .bool) :
    eval env rp (.and (.lit v) r) st = (.err .invalidType, st, []) ∧
    eval env rp (.or (.lit v) r) st = (.err .invalidType, st, []) :=
  eval_nonbool_left env rp _ r st st [] v (eval_lit ..) h

/-- … and so is a non-boolean literal as right operand when it is reached; for any operands: `eval_and_nonbool_right`,
    `eval_or_nonbool_right` -/
theorem logic_right_requires_bool (env : Env) (rp : List Nat) (v : Value) (st : St) (h : v.ty ≠ .bool) :
    eval env rp (.and (.lit (.bool true)) (.lit v)) st = (.err .invalidType, st, []) ∧
    eval env rp (.or (.lit (.bool false)) (.lit v)) st = (.err .invalidType, st, []) :=
  ⟨eval_and_nonbool_right env rp _ _ st st st [] [] v (eval_lit ..) (eval_lit ..) h,
   eval_or_nonbool_right env rp _ _ st st st [] [] v (eval_lit ..) (eval_lit ..) h⟩

/-- every unary operator with `keepsType` (all but the twelve of `type_changing_builtins`: the casts, the two constructors
    and the calendar accessors) returns a Bool, None or a value of its operand's type; every binary operator a Bool, None or
    a value of its left operand's type — except `DateTime − DateTime`, a Duration.  (Assumed: the library oracle answers
    with the type of the primitive it answers for.) -/
theorem only_casts_change_type (o : Oracle) (ho : o.Typed) :
    (∀ op v r, op.keepsType = true → applyUn o op v = .ok r → r.ty = .bool ∨ r.ty = .none ∨ r.ty = v.ty) ∧
    (∀ op a b r, applyBin o op a b = .ok r →
      r.ty = .bool ∨ r.ty = .none ∨ r.ty = a.ty ∨
      (op = .sub ∧ a.ty = .dateTime ∧ b.ty = .dateTime ∧ r.ty = .duration)) :=
  ⟨fun _ _ _ hk h => applyUn_keeps_type ho hk h, fun _ _ _ _ h => applyBin_keeps_type ho h⟩

/-- the ones that do change the type: the casts, the two constructors and the calendar accessors -/
theorem type_changing_builtins :
    UnOp.all.filter (fun op => !op.keepsType) =
      [.toInt, .toFloat, .toDec, .dateTime, .duration, .year, .month, .week, .day, .hour, .minute, .second] := by decide

/-! non-vacuity: values that coincide after coercion -/
example : Oracle.empty.Typed := by intro op args v h; simp [Oracle.empty] at h
-- 1 + 1.0
example : applyBin Oracle.empty .add (.int 1) (.float ⟨0x3ff0000000000000⟩) = .err .invalidType := by decide
example : applyBin Oracle.empty .gt (.dec ⟨false, 1, 0⟩) (.int 1) = .err .invalidType := by decide
example : (Ty.int, Ty.float) ∉ BinOp.add.sig := by decide

end Reval.C03
