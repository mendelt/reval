/-
  Props/C16.lean — printing a parsed expression gives text that parses back to the same expression.

  `G.dispToks` (Spec/Printer.lean) is `impl Display for Expr` at the token level: the printed tokens are a rendering of the
  tree under the precedence table (every operand the grammar would regroup is parenthesised), so, by the round-trip theorem
  of C07, they parse back to exactly that tree and to no other.  At the character level the text `Display` writes
  (`Disp.showExpr`, compared with the real `to_string()` on every correspondence case) lexes to exactly `dispToks`.
  `parsed_expression_roundtrip` is the property as stated, for EVERY text the parser accepts: what the lexer and the grammar
  actions produce is printable (Lemmas/ParsedPrintable.lean).  What remains hypothesis:
   * float leaves: that the token converts back (`LitOK`) and the text is one token (`LitText`) — the library's
     shortest-digits printing and its parsing are not modelled (`FloatText`);
   * decimal literals beyond 96 bits / 28 fraction digits, which `Decimal::from_str` rounds: that the library returns a
     decimal in normal form (`PP.OracleDecOK`).
  `needsParens` has the `isLitPrefixName` clause of fix commit 159fa22 (`f .5` printed `(f.5)` is one float literal);
  `lexShow_index` needs it.  Non-finite floats are outside the hypothesis and really fail (known finding).
-/
import RevalModel.Lemmas.LexShow
import RevalModel.Props.C07
import RevalModel.Lemmas.ParsedPrintable

namespace Reval.C16
open Reval.G Reval.Disp

/-- the printed tokens of a printable tree parse back to exactly that tree (for every sufficiently large fuel) -/
theorem display_roundtrip_partial (o : Oracle) (sf : F64 → Str) (e : Expr) (h : Printable o sf e) :
    C07.ParsesTo o (dispToks sf e) e := parse_render (disp_sound.1 e h 0 (Nat.zero_le _))

/-- … in executable form: the model parser with its own fuel (sufficient: `Lemmas/Fuel.lean`) -/
theorem display_roundtrip_tokens (o : Oracle) (sf : F64 → Str) (e : Expr) (h : Printable o sf e) :
    parseToks o (dispToks sf e) = .ok e [] :=
  (C07.parsesTo_iff_parseToks o e _).1 (display_roundtrip_partial o sf e h)

/-- consequently the re-parsed rendering *is* the expression, so the two evaluate identically on every input -/
theorem reparsed_rendering_evaluates_identically (o : Oracle) (sf : F64 → Str) (e e' : Expr) (h : Printable o sf e)
    (hp : parseToks o (dispToks sf e) = .ok e' []) (env : Env) (rp : List Nat) (st : St) :
    eval env rp e' st = eval env rp e st := by
  rw [display_roundtrip_tokens o sf e h] at hp
  cases hp; rfl

/-- **character level**: the text `Display` writes lexes to exactly the printed token list -/
theorem text_lexes_to_printed_tokens (sf : F64 → Str) (e : Expr) (ht : LexC.TextOK sf e) :
    lex (showExpr sf e) = some (dispToks sf e) := LexC.lex_showExpr e ht

/-- … hence `Expr::parse(e.to_string())`, on the model, is `e`, for every printable tree with well-formed names -/
theorem display_roundtrip_text (o : Oracle) (sf : F64 → Str) (e : Expr) (hp : Printable o sf e) (ht : LexC.TextOK sf e) :
    parseExprText o (showExpr sf e) = .ok e [] := by
  simp only [parseExprText, text_lexes_to_printed_tokens sf e ht, display_roundtrip_tokens o sf e hp]

/-- the literal-prefix corner: a reference named `f` as the base of a numeric index is parenthesised, and the text parses
    back (before fix 159fa22 the text was `(f.5)`, one float literal) -/
theorem literal_prefix_name_is_parenthesised :
    showExpr (fun _ => []) (.index (.ref ['f']) (.pos 5)) = "((f).5)".toList ∧
    (match parseExprText Oracle.empty "((f).5)".toList with
     | .ok (.index (.ref n) (.pos 5)) [] => n == ['f']
     | _ => false) = true ∧
    (match parseExprText Oracle.empty "(f.5)".toList with
     | .ok (.lit (.float _)) [] => true
     | _ => false) = true := by
  refine ⟨by decide +kernel, by decide +kernel, by decide +kernel⟩

/-- printing never changes grouping or operators: the printed tokens render the tree under the table, at every
    level the printed form can stand at (bitwise nodes bare, `-(…)`/`!(…)` unary, everything else atomic) -/
theorem printed_form_is_a_rendering (o : Oracle) (sf : F64 → Str) (e : Expr) (h : Printable o sf e) :
    ∀ k, k ≤ dlvl e → R o k e (dispToks sf e) := disp_sound.1 e h

/-- … and of no other tree -/
theorem printed_form_is_unambiguous (o : Oracle) (sf : F64 → Str) (e e' : Expr) (h : Printable o sf e)
    (h' : R o 0 e' (dispToks sf e)) : e' = e :=
  C07.derivation_unique o e' e _ h' (disp_sound.1 e h 0 (Nat.zero_le _))

/-- the re-parsed rendering evaluates identically, stated on the fuel-indexed parser -/
theorem rendering_evaluates_identically (o : Oracle) (sf : F64 → Str) (e e' : Expr) (h : Printable o sf e)
    (f : Nat) (hf : ∀ g, f ≤ g → pIf o g (dispToks sf e) = .ok e' [])
    (env : Env) (rp : List Nat) (st : St) : eval env rp e' st = eval env rp e st := by
  obtain ⟨f0, p⟩ := display_roundtrip_partial o sf e h
  have a := p (f0 + f) (by omega)
  have b := hf (f0 + f) (by omega)
  rw [a] at b
  cases b; rfl

/-- integer leaves: every integer of the 128-bit range -/
theorem int_leaf_ok (o : Oracle) (sf : F64 → Str) (n : Int) (h : I128.inRange n = true) : LitOK o sf (.int n) :=
  LexC.litOK o sf (.int n) h

/-- string leaves: every string (quotes, backslashes, control characters, any code point) -/
theorem string_leaf_ok (o : Oracle) (sf : F64 → Str) (s : Str) : LitOK o sf (.str s) :=
  LexC.litOK o sf (.str s) trivial

/-- decimal leaves: every decimal in normal form (96-bit mantissa, scale ≤ 28, no negative zero), scale included -/
theorem dec_leaf_ok (o : Oracle) (sf : F64 → Str) (d : Dec) (h : LexC.DecWF d) : LitOK o sf (.dec d) :=
  LexC.litOK o sf (.dec d) h

theorem bool_none_leaf_ok (o : Oracle) (sf : F64 → Str) (b : Bool) : LitOK o sf (.bool b) ∧ LitOK o sf .none :=
  ⟨LexC.litOK o sf (.bool b) trivial, LexC.litOK o sf .none trivial⟩

/-- built-in function nodes are printed with a name that the grammar maps back to the same node -/
theorem function_names_roundtrip (op : UnOp) (h1 : op ≠ .neg) (h2 : op ≠ .not) : funcOfKw (unKw op) = some op :=
  (unTok_funcOfKw op h1 h2).2.1

/-- binary operator nodes are printed with a token the table maps back to the same node, at its own level -/
theorem operator_tokens_roundtrip (op : BinOp) (h : op ≠ .contains) :
    binOpAt (binLvl op) (binTok op) = some (Expr.bin op) := (binTok_binOpAt op h).1

/-- the float library's contract, for the floats in `P` (the finite ones; see `nonfinite_float_is_not_reparsed`): the text
    it prints converts back to the same float, and is one token in front of whatever the printer writes after a token (`Fol false`) -/
def FloatText (o : Oracle) (sf : F64 → Str) (P : F64 → Prop) : Prop :=
  ∀ f, P f → LitOK o sf (.float f) ∧ LexC.LitText sf (.float f)

/-- **whatever the parser returns is printable**: the tree `Expr::parse` returns for a text satisfies the hypotheses of
    the round-trip theorems (floats: those of its leaves must be in `P`) -/
theorem parsed_is_printable (o : Oracle) (sf : F64 → Str) (P : F64 → Prop) (hdec : PP.OracleDecOK o) (hP : FloatText o sf P)
    (text : Str) (e : Expr) (h : parseExprText o text = .ok e []) (hf : PP.FloatLeaves P e) :
    Printable o sf e ∧ LexC.TextOK sf e := by
  unfold parseExprText at h
  split at h
  · cases h
  · rename_i ts hlex
    have hR : R o 0 e ts := parse_sound ((parseToks_ok_iff o e ts).1 h)
    exact PP.parsed_good hdec hP hR (PP.lex_tokOK text ts hlex) hf

/-- **C16 as stated**: for every text that `Expr::parse` accepts with tree `e`, `Expr::parse(e.to_string()) = e` (the whole
    pipeline characters → tokens → tree → characters → tokens → tree; any size, no fuel in the statement) -/
theorem parsed_expression_roundtrip (o : Oracle) (sf : F64 → Str) (P : F64 → Prop) (hdec : PP.OracleDecOK o) (hP : FloatText o sf P)
    (text : Str) (e : Expr) (h : parseExprText o text = .ok e []) (hf : PP.FloatLeaves P e) :
    parseExprText o (showExpr sf e) = .ok e [] := by
  obtain ⟨hp, ht⟩ := parsed_is_printable o sf P hdec hP text e h hf
  exact display_roundtrip_text o sf e hp ht

/-- … and printing is idempotent from there on: the re-parsed tree prints the same text -/
theorem parsed_expression_roundtrip_twice (o : Oracle) (sf : F64 → Str) (P : F64 → Prop) (hdec : PP.OracleDecOK o) (hP : FloatText o sf P)
    (text : Str) (e e' : Expr) (h : parseExprText o text = .ok e []) (hf : PP.FloatLeaves P e)
    (h' : parseExprText o (showExpr sf e) = .ok e' []) : showExpr sf e' = showExpr sf e := by
  rw [parsed_expression_roundtrip o sf P hdec hP text e h hf] at h'
  cases h'; rfl

/-- the literal-prefix corner: `i5x`, `f5e` and `d1_a` are identifiers (longest match against the numeric literal), and
    well-formed names for the printer, in front of any follower -/
theorem literal_prefix_identifiers_are_names :
    LexC.NameOK ['i', '5', 'x'] ∧ LexC.NameOK ['f', '5', 'e'] ∧ LexC.NameOK ['d', '1', '_', 'a'] := by
  refine ⟨?_, ?_, ?_⟩
  · exact PP.lex_tokOK ['i', '5', 'x'] [.ident ['i', '5', 'x']] (by decide +kernel) (.ident ['i', '5', 'x']) (by simp)
  · exact PP.lex_tokOK ['f', '5', 'e', '+'] [.ident ['f', '5', 'e'], .p ['+']] (by decide +kernel) (.ident ['f', '5', 'e']) (by simp)
  · exact PP.lex_tokOK ['d', '1', '_', 'a'] [.ident ['d', '1', '_', 'a']] (by decide +kernel) (.ident ['d', '1', '_', 'a']) (by simp)

/-- non-vacuity: no float leaves (`P` empty), the empty oracle; the text `((i5x)) + 0xff` has the literal-prefix corner,
    redundant parentheses and a radix literal -/
example : parseExprText Oracle.empty (showExpr (fun _ => []) (.bin .add (.ref ['i', '5', 'x']) (.lit (.int 255)))) =
    .ok (.bin .add (.ref ['i', '5', 'x']) (.lit (.int 255))) [] := by
  have hdec : PP.OracleDecOK Oracle.empty := by intro b v h; simp [Oracle.empty] at h
  have hP : FloatText Oracle.empty (fun _ => []) (fun _ => False) := fun f h => h.elim
  refine parsed_expression_roundtrip Oracle.empty (fun _ => []) (fun _ => False) hdec hP ['(', '(', 'i', '5', 'x', ')', ')', ' ', '+', ' ', '0', 'x', 'f', 'f'] _ (by with_unfolding_all rfl) ?_
  simp [PP.FloatLeaves]

/-- **known finding**: `f64::INFINITY` prints as `finf`, which is an identifier, not a float literal -/
theorem nonfinite_float_is_not_reparsed :
    (match parseExprText Oracle.empty ['f', 'i', 'n', 'f'] with
     | .ok (.ref n) [] => n == ['f', 'i', 'n', 'f']
     | _ => false) = true := by decide +kernel

/-! ### the hypotheses are satisfiable -/

private def sample : Expr :=
  .bin .bitAnd (.ref ['a']) (.bin .bitOr (.un .neg (.lit (.int 5))) (.index (.lit (.str ['q', '"'])) (.pos 0)))

example (o : Oracle) (sf : F64 → Str) : Printable o sf sample := by
  simp only [sample, Printable, true_and]
  exact ⟨int_leaf_ok o sf 5 (by decide), string_leaf_ok o sf _, by decide⟩

example (sf : F64 → Str) : LexC.TextOK sf sample := by
  have ha : LexC.NameOK ['a'] := ⟨'a', [], rfl, by decide, by decide, LexC.NumFree.of_noDigit (by intro _ a r e; cases e), by decide⟩
  simp only [sample, LexC.TextOK, LexC.LitText, and_true]
  exact ha

/-- `a & (-(i5) | ("q\"".0))`: the right bitwise operand is parenthesised by the printer -/
example (sf : F64 → Str) : dispToks sf sample =
    [.ident ['a'], .p ['&'], lp, minus, lp, .int ['i', '5'], rp, .p ['|'], lp, .str ['"', 'q', '\\', '"', '"'], dot, .index ['0'], rp, rp] := by
  simp [sample, dispToks, needsParens, isBitwise, wrap, binTok, unTok, litTok, idxTok, showInt, showNat, natDigitsAux, digitChar, escapeStr, escChar]

end Reval.C16
