/-
  Props/C18.lean — rulesets can be shared across threads and evaluated from any task.
  (a) Send / Sync of the public types and of the futures is a judgement of rustc's auto-trait solver: it is
      decided when the C18 harness crate is compiled, not here.
  (b) concurrent evaluations of one shared ruleset = the N-task instance of schedule independence (C12).
-/
import RevalModel.Props.C12

namespace Reval.C18

/-- running a resumption depends on the environment only through its user functions -/
theorem run_congr {α : Type} (env env' : Env) (h : env.fns = env'.fns) : ∀ (r : Resumption α), run env r = run env' r := by
  intro r
  induction r with
  | done a => rfl
  | await f arg idx k ih =>
    simp only [run]
    have : answer env f idx arg = answer env' f idx arg := by simp [answer, h]
    rw [this]; exact ih _

/-- N evaluations of one shared ruleset on N inputs, polled in any interleaving (any number of threads / tasks, any
    number of suspensions): each returns exactly the outcomes of evaluating its input sequentially -/
theorem concurrent_eq_sequential (env : Env) (rules : List Expr) (inputs : List Value)
    (susp : Str → Value → Nat → Nat) (sched : List Nat) :
    (runSched env susp sched (inputs.map (fun v => (⟨rulesetTask { env with facts := v } rules, 0⟩ : Task _)))).map
        (fun t => run env t.res) =
      inputs.map (fun v => evaluateValue { env with facts := v } rules) := by
  rw [C12.schedule_independent]
  simp only [List.map_map]
  apply List.map_congr_left
  intro v _
  simp only [Function.comp]
  rw [run_congr env { env with facts := v } rfl, ruleset_adequacy]

/-- polling one evaluation touches no other: the tasks share the ruleset and the functions, nothing mutable -/
theorem poll_is_local {α : Type} (env : Env) (susp : Str → Value → Nat → Nat) :
    ∀ (ts : List (Task α)) (i j : Nat), i ≠ j → (pollAt env susp i ts)[j]? = ts[j]? := by
  intro ts i j hij
  rw [pollAt_eq_modify]
  exact List.getElem?_modify_ne _ _ hij

/-- no schedule creates or loses an evaluation -/
theorem schedule_keeps_tasks {α : Type} (env : Env) (susp : Str → Value → Nat → Nat) (sched : List Nat) (ts : List (Task α)) :
    (runSched env susp sched ts).length = ts.length := by
  induction sched generalizing ts with
  | nil => rfl
  | cons i rest ih => rw [runSched, ih, pollAt_eq_modify, List.length_modify]

/-- a finished evaluation keeps its result whatever is polled afterwards, by whomever -/
theorem finished_stays_finished {α : Type} (env : Env) (susp : Str → Value → Nat → Nat) (sched : List Nat)
    (ts : List (Task α)) (j : Nat) (a : α) (p : Nat) (h : ts[j]? = some ⟨.done a, p⟩) :
    (runSched env susp sched ts)[j]? = some ⟨.done a, p⟩ := by
  rw [getElem?_runSched, h, Option.map_some, repeat_done]

end Reval.C18
