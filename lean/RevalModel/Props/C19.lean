/-
  Props/C19.lean — deeply nested input.  Stack exhaustion is a property of frame sizes and the OS stack limit;
  what a model can carry is how deep each operation recurses as a function of the input.  The theorems below
  establish the *negation* of the property for every recursive construct: trees of every nesting depth exist
  (`chains_have_depth`, `depth_unbounded`), so no fixed stack suffices (recorded as known findings, observed by the
  child-process runs).  That `depth` is the recursion depth of render / clone / compare / drop is the reading laid down
  in Spec/Depth.lean, not a theorem; for evaluate it is one, on the unary chain (`eval_descends`).  That texts of
  proportional length parse to these trees is not stated here (C07's `renderings_parse_back` holds of every rendering
  of them).  Parentheses are the one construct that is not a node: one step of `pTerm` adds no depth.
-/
import RevalModel.Spec.Depth
import RevalModel.Impl.Parser

namespace Reval.C19

/-- each recursive construct reaches every depth -/
theorem chains_have_depth (n : Nat) :
    depth (negChain n) = n ∧ depth (addChain n) = n ∧ depth (callChain n) = n ∧ depth (listChain n) = n ∧
    depth (mapChain n) = n ∧ depth (elseChain n) = n ∧ depth (indexChain n) = n := by
  induction n <;>
    simp_all [negChain, addChain, callChain, listChain, mapChain, elseChain, indexChain, depth, depthList, depthMap]

/-- no bound `B` holds of the depth of all trees (about `Expr` and `depth` only: no operation and no stack in it) -/
theorem depth_unbounded : ¬ ∃ B, ∀ e : Expr, depth e ≤ B := by
  intro ⟨B, h⟩
  have := h (negChain (B + 1))
  rw [(chains_have_depth (B + 1)).1] at this
  omega

/-- evaluation really descends: evaluating a unary chain first evaluates the whole chain below it -/
theorem eval_descends (env : Env) (rp : List Nat) (n : Nat) (st st1 : St) (v : Value) (ev : List Event)
    (h : eval env (0 :: rp) (negChain n) st = (.ok v, st1, ev)) :
    eval env rp (negChain (n + 1)) st = (applyUn env.oracle .neg v, st1, ev) := by
  simp [negChain, eval, h]

/-- evaluation descends only where it evaluates: `C05.lazy_and_or` / `C05.lazy_if` at a literal left operand, written
    for the chain (any operand would do in its place) -/
theorem cut_off_operand_is_not_descended (env : Env) (rp : List Nat) (st : St) (n : Nat) (t : Expr) :
    eval env rp (.and (.lit (.bool false)) (negChain n)) st = (.ok (.bool false), st, []) ∧
    eval env rp (.or (.lit (.bool true)) (negChain n)) st = (.ok (.bool true), st, []) ∧
    eval env rp (.ite (.lit (.bool true)) t (negChain n)) st = eval env (1 :: rp) t st ∧
    eval env rp (.ite (.lit (.bool false)) (negChain n) t) st = eval env (2 :: rp) t st := by
  refine ⟨by simp [eval], by simp [eval], ?_, ?_⟩ <;> simp [eval]

/-- parentheses are not nodes: one step of `pTerm` turns the result for `e )` into the same tree for `( e )`, so no
    pair of parentheses adds depth (the one construct for which the property holds) -/
theorem parens_are_not_nodes (o : Oracle) (f : Nat) (ts rest : List Tok) (e : Expr)
    (h : pIf o f ts = .ok e (.p [')'] :: rest)) :
    pTerm o (f + 1) (.p ['('] :: ts) = .ok e rest := by
  simp [pTerm, h]

end Reval.C19
