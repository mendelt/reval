/-
  Impl/Eval.lean — code-shaped model of `src/expr/eval/mod.rs`, `eval/context.rs`, `function.rs`
  (`UserFunctions::call`) — one Lean definition per Rust function, match arms in the order of the Rust
  `match`.  Transcribes the code as it is after the `fix:` commits (checked arithmetic).
-/
import RevalModel.Prim.DecTime

namespace Reval

inductive UnOp where
  | not | neg | some | isNone | toInt | toFloat | toDec | dateTime | duration
  | upper | lower | trim | round | floor | fract
  | year | month | week | day | hour | minute | second
deriving DecidableEq, Repr, Inhabited

inductive BinOp where
  | mult | div | rem | add | sub | gt | gte | lt | lte | bitAnd | bitOr | bitXor | contains
deriving DecidableEq, Repr, Inhabited

def UnOp.all : List UnOp :=
  [.not, .neg, .some, .isNone, .toInt, .toFloat, .toDec, .dateTime, .duration, .upper, .lower, .trim,
   .round, .floor, .fract, .year, .month, .week, .day, .hour, .minute, .second]
def BinOp.all : List BinOp :=
  [.mult, .div, .rem, .add, .sub, .gt, .gte, .lt, .lte, .bitAnd, .bitOr, .bitXor, .contains]
theorem UnOp.mem_all (o : UnOp) : o ∈ UnOp.all := by cases o <;> decide
theorem BinOp.mem_all (o : BinOp) : o ∈ BinOp.all := by cases o <;> decide

inductive Index where
  | key (k : Str)
  | pos (n : Nat)
deriving DecidableEq, Repr, Inhabited

/-- `reval::Expr`: the 47 Rust constructors are (constructor, operator tag) pairs here. -/
inductive Expr where
  | lit (v : Value)
  | ref (n : Str)
  | sym (n : Str)
  | index (e : Expr) (i : Index)
  | call (f : Str) (a : Expr)
  | ite (c t e : Expr)
  | and (l r : Expr)
  | or (l r : Expr)
  | eq (l r : Expr)
  | neq (l r : Expr)
  | un (op : UnOp) (e : Expr)
  | bin (op : BinOp) (l r : Expr)
  | vec (xs : List Expr)
  | map (kvs : List (Str × Expr))
deriving Repr, Inhabited

/-! ### `PartialEq for Value` (derived): floats by IEEE `==`, decimals numerically -/

mutual
def Value.peq : Value → Value → Bool
  | .str a, .str b => a == b
  | .int a, .int b => a == b
  | .float a, .float b => F64.feq a b
  | .dec a, .dec b => Dec.eqNum a b
  | .bool a, .bool b => a == b
  | .dateTime a, .dateTime b => a == b
  | .duration a, .duration b => a == b
  | .vec a, .vec b => Value.peqList a b
  | .map a, .map b => Value.peqFields a b
  | .none, .none => true
  | _, _ => false
def Value.peqList : List Value → List Value → Bool
  | [], [] => true
  | a :: as, b :: bs => Value.peq a b && Value.peqList as bs
  | _, _ => false
def Value.peqFields : List (Str × Value) → List (Str × Value) → Bool
  | [], [] => true
  | (k, a) :: as, (l, b) :: bs => k == l && Value.peq a b && Value.peqFields as bs
  | _, _ => false
end

/-! ### Unary operators and built-ins -/

namespace Impl

def decOut (o : Oracle) (op : FOp) (args : List Value) (onOverflow : Err) : Dec.Out → Res Value
  | .val d => .ok (.dec d)
  | .overflow => .err onOverflow
  | .unknown => o.ask op args (.err onOverflow)

def not (value : Value) : Res Value :=
  match value with
  | .bool b => .ok (.bool (!b))
  | .none => .ok .none
  | _ => .err .invalidType

def neg (value : Value) : Res Value :=
  match value with
  | .int i =>
    match I128.checked (-i) with
    | some r => .ok (.int r)
    | none => .err (.outOfBounds (.int i))
  | .float f => .ok (.float (F64.neg f))
  | .dec d => .ok (.dec (Dec.negate d))
  | .none => .ok .none
  | _ => .err .invalidType

def some (value : Value) : Res Value :=
  match value with
  | .none => .ok (.bool false)
  | _ => .ok (.bool true)

def isNone (value : Value) : Res Value :=
  match value with
  | .none => .ok (.bool true)
  | _ => .ok (.bool false)

def toInt (value : Value) : Res Value :=
  match value with
  | .int _ => .ok value
  | .float f =>
    match F64.truncToInt f with
    | Option.some n => if I128.inRange n then .ok (.int n) else .err (.invalidCast value)
    | Option.none => .err (.invalidCast value)
  | .dec d => .ok (.int (Dec.toInt d))
  | .str s =>
    match Str.parseI128 s with
    | Option.some n => .ok (.int n)
    | Option.none => .err (.invalidCast value)
  | .none => .ok .none
  | _ => .err .invalidType

def toFloat (o : Oracle) (value : Value) : Res Value :=
  match value with
  | .int i => .ok (.float (F64.ofInt i))
  | .float _ => .ok value
  | .dec _ => o.ask .decToF64 [value] (.err (.invalidCast value))
  | .str _ => o.ask .strToF64 [value] (.err (.invalidCast value))
  | .none => .ok .none
  | _ => .err .invalidType

def toDec (o : Oracle) (value : Value) : Res Value :=
  match value with
  | .int i =>
    match Dec.ofInt i with
    | Option.some d => .ok (.dec d)
    | Option.none => .err (.invalidCast value)
  | .float _ => o.ask .f64ToDec [value] (.err (.invalidCast value))
  | .dec _ => .ok value
  | .str _ => o.ask .strToDec [value] (.err (.invalidCast value))
  | .none => .ok .none
  | _ => .err .invalidType

def dateTime (o : Oracle) (value : Value) : Res Value :=
  match value with
  | .str _ => o.ask .strToDateTime [value] (.err (.invalidCast value))
  | .int i =>
    match (if I64.inRange i then Time.fromTimestamp i else Option.none) with
    | Option.some t => .ok (.dateTime t)
    | Option.none => .err (.invalidCast value)
  | .dateTime _ => .ok value
  | .none => .ok .none
  | _ => .err .invalidType

def duration (value : Value) : Res Value :=
  match value with
  | .int i =>
    match (if I64.inRange i then Time.trySeconds i else Option.none) with
    | Option.some d => .ok (.duration d)
    | Option.none => .err (.invalidCast value)
  | .duration _ => .ok value
  | .none => .ok .none
  | _ => .err .invalidType

def upper (o : Oracle) (value : Value) : Res Value :=
  match value with
  | .str s => if Str.isAscii s then .ok (.str (s.map Str.asciiUpper)) else o.ask .strUpper [value] (.frontier .strUpper [value])
  | .none => .ok .none
  | _ => .err .invalidType

def lower (o : Oracle) (value : Value) : Res Value :=
  match value with
  | .str s => if Str.isAscii s then .ok (.str (s.map Str.asciiLower)) else o.ask .strLower [value] (.frontier .strLower [value])
  | .none => .ok .none
  | _ => .err .invalidType

def trim (value : Value) : Res Value :=
  match value with
  | .str s => .ok (.str (Str.trim s))
  | .none => .ok .none
  | _ => .err .invalidType

def floor (o : Oracle) (value : Value) : Res Value :=
  match value with
  | .float f => .ok (.float (F64.floor f))
  | .dec d => decOut o .decFloor [value] .invalidType (Dec.floor d)
  | .none => .ok .none
  | _ => .err .invalidType

def round (o : Oracle) (value : Value) : Res Value :=
  match value with
  | .float f => .ok (.float (F64.round f))
  | .dec d => decOut o .decRound [value] .invalidType (Dec.round d)
  | .none => .ok .none
  | _ => .err .invalidType

def fract (o : Oracle) (value : Value) : Res Value :=
  match value with
  | .float f => .ok (.float (F64.fract f))
  | .dec d => decOut o .decFract [value] .invalidType (Dec.fract d)
  | .none => .ok .none
  | _ => .err .invalidType

def year (value : Value) : Res Value :=
  match value with
  | .dateTime t => .ok (.int (Time.year t))
  | .none => .ok .none
  | _ => .err .invalidType

def month (value : Value) : Res Value :=
  match value with
  | .dateTime t => .ok (.int (Time.month t))
  | .none => .ok .none
  | _ => .err .invalidType

/-- `i64::try_from(n).ok().and_then(TimeDelta::try_<unit>s)` -/
def mkDuration (unit : Int) (value : Value) (i : Int) : Res Value :=
  match (if I64.inRange i then Time.tryUnits unit i else Option.none) with
  | Option.some d => .ok (.duration d)
  | Option.none => .err (.outOfBounds value)

def week (value : Value) : Res Value :=
  match value with
  | .int i => mkDuration 604800 value i
  | .duration d => .ok (.int (Time.numUnits 604800 d))
  | .none => .ok .none
  | _ => .err .invalidType

def day (value : Value) : Res Value :=
  match value with
  | .int i => mkDuration 86400 value i
  | .dateTime t => .ok (.int (Time.day t))
  | .duration d => .ok (.int (Time.numUnits 86400 d))
  | .none => .ok .none
  | _ => .err .invalidType

def hour (value : Value) : Res Value :=
  match value with
  | .int i => mkDuration 3600 value i
  | .dateTime t => .ok (.int (Time.hour t))
  | .duration d => .ok (.int (Time.numUnits 3600 d))
  | .none => .ok .none
  | _ => .err .invalidType

def minute (value : Value) : Res Value :=
  match value with
  | .int i => mkDuration 60 value i
  | .dateTime t => .ok (.int (Time.minute t))
  | .duration d => .ok (.int (Time.numUnits 60 d))
  | .none => .ok .none
  | _ => .err .invalidType

def second (value : Value) : Res Value :=
  match value with
  | .int i => mkDuration 1 value i
  | .dateTime t => .ok (.int (Time.second t))
  | .duration d => .ok (.int (Time.numUnits 1 d))
  | .none => .ok .none
  | _ => .err .invalidType

/-! ### Binary operators -/

def mult (o : Oracle) (left right : Value) : Res Value :=
  match left, right with
  | .int a, .int b =>
    match I128.checked (a * b) with
    | Option.some r => .ok (.int r)
    | Option.none => .err (.outOfBounds (.int a))
  | .float a, .float b => .ok (.float (F64.mul a b))
  | .dec a, .dec b => decOut o .decMul [left, right] (.outOfBounds (.dec a)) (Dec.mul a b)
  | .none, _ => .ok .none
  | _, .none => .ok .none
  | _, _ => .err .invalidType

def div (o : Oracle) (left right : Value) : Res Value :=
  match left, right with
  | .int a, .int b =>
    match I128.checkedDiv a b with
    | Option.some r => .ok (.int r)
    | Option.none => .err .divByZero
  | .float a, .float b => .ok (.float (F64.div a b))
  | .dec _, .dec b => if b.mant = 0 then .err .divByZero else o.ask .decDiv [left, right] (.err .divByZero)
  | .none, _ => .ok .none
  | _, .none => .ok .none
  | _, _ => .err .invalidType

def rem (o : Oracle) (left right : Value) : Res Value :=
  match left, right with
  | .int a, .int b =>
    match I128.checkedRem a b with
    | Option.some r => .ok (.int r)
    | Option.none => .err .divByZero
  | .float a, .float b => .ok (.float (F64.rem a b))
  | .dec _, .dec b => if b.mant = 0 then .err .divByZero else o.ask .decRem [left, right] (.err .divByZero)
  | .none, _ => .ok .none
  | _, .none => .ok .none
  | _, _ => .err .invalidType

def add (o : Oracle) (left right : Value) : Res Value :=
  match left, right with
  | .int a, .int b =>
    match I128.checked (a + b) with
    | Option.some r => .ok (.int r)
    | Option.none => .err (.outOfBounds (.int a))
  | .float a, .float b => .ok (.float (F64.add a b))
  | .dec a, .dec b => decOut o .decAdd [left, right] (.outOfBounds (.dec a)) (Dec.add a b)
  | .dateTime a, .duration b =>
    if Time.dtInRange (a + b) then .ok (.dateTime (a + b)) else .err (.outOfBounds (.dateTime a))
  | .none, _ => .ok .none
  | _, .none => .ok .none
  | _, _ => .err .invalidType

def sub (o : Oracle) (left right : Value) : Res Value :=
  match left, right with
  | .int a, .int b =>
    match I128.checked (a - b) with
    | Option.some r => .ok (.int r)
    | Option.none => .err (.outOfBounds (.int a))
  | .float a, .float b => .ok (.float (F64.sub a b))
  | .dec a, .dec b => decOut o .decSub [left, right] (.outOfBounds (.dec a)) (Dec.sub a b)
  | .dateTime a, .dateTime b => .ok (.duration (a - b))
  | .dateTime a, .duration b =>
    if Time.dtInRange (a - b) then .ok (.dateTime (a - b)) else .err (.outOfBounds (.dateTime a))
  | .duration a, .duration b =>
    if Time.durInRange (a - b) then .ok (.duration (a - b)) else .err (.outOfBounds (.duration a))
  | .none, _ => .ok .none
  | _, .none => .ok .none
  | _, _ => .err .invalidType

def gt (left right : Value) : Res Value :=
  match left, right with
  | .int a, .int b => .ok (.bool (decide (a > b)))
  | .float a, .float b => .ok (.bool (F64.gt a b))
  | .dec a, .dec b => .ok (.bool (Dec.lt b a))
  | .dateTime a, .dateTime b => .ok (.bool (decide (a > b)))
  | .duration a, .duration b => .ok (.bool (decide (a > b)))
  | .none, _ => .ok (.bool false)
  | _, .none => .ok (.bool false)
  | _, _ => .err .invalidType

def gte (left right : Value) : Res Value :=
  match left, right with
  | .int a, .int b => .ok (.bool (decide (a ≥ b)))
  | .float a, .float b => .ok (.bool (F64.ge a b))
  | .dec a, .dec b => .ok (.bool (Dec.le b a))
  | .dateTime a, .dateTime b => .ok (.bool (decide (a ≥ b)))
  | .duration a, .duration b => .ok (.bool (decide (a ≥ b)))
  | .none, _ => .ok (.bool false)
  | _, .none => .ok (.bool false)
  | _, _ => .err .invalidType

def lt (left right : Value) : Res Value :=
  match left, right with
  | .int a, .int b => .ok (.bool (decide (a < b)))
  | .float a, .float b => .ok (.bool (F64.lt a b))
  | .dec a, .dec b => .ok (.bool (Dec.lt a b))
  | .dateTime a, .dateTime b => .ok (.bool (decide (a < b)))
  | .duration a, .duration b => .ok (.bool (decide (a < b)))
  | .none, _ => .ok (.bool false)
  | _, .none => .ok (.bool false)
  | _, _ => .err .invalidType

def lte (left right : Value) : Res Value :=
  match left, right with
  | .int a, .int b => .ok (.bool (decide (a ≤ b)))
  | .float a, .float b => .ok (.bool (F64.le a b))
  | .dec a, .dec b => .ok (.bool (Dec.le a b))
  | .dateTime a, .dateTime b => .ok (.bool (decide (a ≤ b)))
  | .duration a, .duration b => .ok (.bool (decide (a ≤ b)))
  | .none, _ => .ok (.bool false)
  | _, .none => .ok (.bool false)
  | _, _ => .err .invalidType

def bitwiseAnd (left right : Value) : Res Value :=
  match left, right with
  | .int a, .int b => .ok (.int (I128.land a b))
  | .bool a, .bool b => .ok (.bool (a && b))
  | .none, _ => .ok .none
  | _, .none => .ok .none
  | _, _ => .err .invalidType

def bitwiseOr (left right : Value) : Res Value :=
  match left, right with
  | .int a, .int b => .ok (.int (I128.lor a b))
  | .bool a, .bool b => .ok (.bool (a || b))
  | .none, _ => .ok .none
  | _, .none => .ok .none
  | _, _ => .err .invalidType

def bitwiseXor (left right : Value) : Res Value :=
  match left, right with
  | .int a, .int b => .ok (.int (I128.xor a b))
  | .bool a, .bool b => .ok (.bool (a != b))
  | .none, _ => .ok .none
  | _, .none => .ok .none
  | _, _ => .err .invalidType

def contains (coll item : Value) : Res Value :=
  match coll, item with
  | .map m, .str k => .ok (.bool (lookup m k).isSome)
  | .vec xs, item => .ok (.bool (xs.any (fun x => Value.peq x item)))
  | .str c, .str i => .ok (.bool (Str.isInfix i c))
  | .int flags, .int flag => .ok (.bool (I128.land flags flag != 0))
  | .none, _ => .ok (.bool false)
  | _, _ => .err .invalidType

def index (value : Value) (idx : Index) : Res Value :=
  match value, idx with
  | .map m, .key k => .ok ((lookup m k).getD .none)
  | .vec xs, .pos n => .ok ((xs[n]?).getD .none)
  | .none, _ => .ok .none
  | _, _ => .err .invalidType

end Impl

def applyUn (o : Oracle) : UnOp → Value → Res Value
  | .not, v => Impl.not v
  | .neg, v => Impl.neg v
  | .some, v => Impl.some v
  | .isNone, v => Impl.isNone v
  | .toInt, v => Impl.toInt v
  | .toFloat, v => Impl.toFloat o v
  | .toDec, v => Impl.toDec o v
  | .dateTime, v => Impl.dateTime o v
  | .duration, v => Impl.duration v
  | .upper, v => Impl.upper o v
  | .lower, v => Impl.lower o v
  | .trim, v => Impl.trim v
  | .round, v => Impl.round o v
  | .floor, v => Impl.floor o v
  | .fract, v => Impl.fract o v
  | .year, v => Impl.year v
  | .month, v => Impl.month v
  | .week, v => Impl.week v
  | .day, v => Impl.day v
  | .hour, v => Impl.hour v
  | .minute, v => Impl.minute v
  | .second, v => Impl.second v

def applyBin (o : Oracle) : BinOp → Value → Value → Res Value
  | .mult, a, b => Impl.mult o a b
  | .div, a, b => Impl.div o a b
  | .rem, a, b => Impl.rem o a b
  | .add, a, b => Impl.add o a b
  | .sub, a, b => Impl.sub o a b
  | .gt, a, b => Impl.gt a b
  | .gte, a, b => Impl.gte a b
  | .lt, a, b => Impl.lt a b
  | .lte, a, b => Impl.lte a b
  | .bitAnd, a, b => Impl.bitwiseAnd a b
  | .bitOr, a, b => Impl.bitwiseOr a b
  | .bitXor, a, b => Impl.bitwiseXor a b
  | .contains, a, b => Impl.contains a b

/-! ### Environment, user functions, cache -/

/-- A user function: whether it is cacheable, and what its `nth` invocation (global index over the
    whole ruleset evaluation) returns for an argument — so counting and failing functions are in scope. -/
structure FnModel where
  cacheable : Bool
  behave : Nat → Value → Except Str Value

structure Env where
  facts : Value
  symbols : List (Str × Value)
  fns : List (Str × FnModel)
  oracle : Oracle

/-- `FunctionCache` (keyed by `format!("{name}-{param:?}")`, modelled as the pair it encodes) and the
    number of user-function invocations so far. -/
structure St where
  cache : List ((Str × Value) × Value)
  calls : Nat

def St.init : St := ⟨[], 0⟩

inductive Event where
  /-- the call node at (reversed) path `rp` was reached, its argument evaluated to `arg` -/
  | reach (rp : List Nat) (f : Str) (arg : Value)
  /-- user function `f` was actually invoked (its `idx`-th invocation overall) and returned `res`
      (`none` = it failed); `cached` = the result was stored in the function cache -/
  | invoke (f : Str) (arg : Value) (idx : Nat) (res : Option Value) (cached : Bool)
deriving Repr

def cacheGet : List ((Str × Value) × Value) → Str × Value → Option Value
  | [], _ => none
  | (k, v) :: rest, key => if k = key then some v else cacheGet rest key

/-- `call_function(function, param, name)`: invoke, wrap a failure in `UserFunctionError` -/
def invokeFn (fm : FnModel) (f : Str) (arg : Value) (st : St) : Res Value × St × List Event :=
  match fm.behave st.calls arg with
  | .ok v => (.ok v, ⟨st.cache, st.calls + 1⟩, [.invoke f arg st.calls (some v) false])
  | .error msg => (.err (.userFn f msg), ⟨st.cache, st.calls + 1⟩, [.invoke f arg st.calls none false])

/-- `UserFunctions::call` -/
def callFn (env : Env) (f : Str) (arg : Value) (st : St) : Res Value × St × List Event :=
  match lookup env.fns f with
  | none => (.err (.unknownFn f), st, [])
  | some fm =>
    if fm.cacheable then
      match cacheGet st.cache (f, arg) with
      | some v => (.ok v, st, [])
      | none =>
        match fm.behave st.calls arg with
        | .ok v => (.ok v, ⟨((f, arg), v) :: st.cache, st.calls + 1⟩, [.invoke f arg st.calls (some v) true])
        | .error msg => (.err (.userFn f msg), ⟨st.cache, st.calls + 1⟩, [.invoke f arg st.calls none false])
    else invokeFn fm f arg st

/-- `EvalContext::reference` -/
def reference (env : Env) (name : Str) : Res Value :=
  if name = "facts".toList then .ok env.facts
  else
    match env.facts with
    | .map m =>
      match lookup m name with
      | some v => .ok v
      | none => .err (.unknownRef name)
    | _ => .err .invalidType

/-- `Symbols::get` -/
def symbol (env : Env) (name : Str) : Res Value :=
  match lookup env.symbols name with
  | some v => .ok v
  | none => .err (.invalidSymbol name)

/-! ### `eval_rec` -/

mutual
def eval (env : Env) (rp : List Nat) : Expr → St → Res Value × St × List Event
  | .lit v, st => (.ok v, st, [])
  | .ref n, st => (reference env n, st, [])
  | .sym n, st => (symbol env n, st, [])
  | .index e i, st =>
    match eval env (0 :: rp) e st with
    | (.ok v, st1, ev) => (Impl.index v i, st1, ev)
    | other => other
  | .call f a, st =>
    match eval env (0 :: rp) a st with
    | (.ok v, st1, ev) =>
      match callFn env f v st1 with
      | (r, st2, ev2) => (r, st2, ev ++ (Event.reach rp f v :: ev2))
    | other => other
  | .ite c t e, st =>
    match eval env (0 :: rp) c st with
    | (.ok (.bool true), st1, ev) =>
      match eval env (1 :: rp) t st1 with
      | (r, st2, ev2) => (r, st2, ev ++ ev2)
    | (.ok (.bool false), st1, ev) =>
      match eval env (2 :: rp) e st1 with
      | (r, st2, ev2) => (r, st2, ev ++ ev2)
    | (.ok _, st1, ev) => (.err .invalidType, st1, ev)
    | other => other
  | .and l r, st =>
    match eval env (0 :: rp) l st with
    | (.ok (.bool false), st1, ev) => (.ok (.bool false), st1, ev)
    | (.ok (.bool true), st1, ev) =>
      match eval env (1 :: rp) r st1 with
      | (.ok (.bool b), st2, ev2) => (.ok (.bool b), st2, ev ++ ev2)
      | (.ok _, st2, ev2) => (.err .invalidType, st2, ev ++ ev2)
      | (r', st2, ev2) => (r', st2, ev ++ ev2)
    | (.ok _, st1, ev) => (.err .invalidType, st1, ev)
    | other => other
  | .or l r, st =>
    match eval env (0 :: rp) l st with
    | (.ok (.bool true), st1, ev) => (.ok (.bool true), st1, ev)
    | (.ok (.bool false), st1, ev) =>
      match eval env (1 :: rp) r st1 with
      | (.ok (.bool b), st2, ev2) => (.ok (.bool b), st2, ev ++ ev2)
      | (.ok _, st2, ev2) => (.err .invalidType, st2, ev ++ ev2)
      | (r', st2, ev2) => (r', st2, ev ++ ev2)
    | (.ok _, st1, ev) => (.err .invalidType, st1, ev)
    | other => other
  | .eq l r, st =>
    match eval env (0 :: rp) l st with
    | (.ok .none, st1, ev) => (.ok (.bool false), st1, ev)
    | (.ok a, st1, ev) =>
      match eval env (1 :: rp) r st1 with
      | (.ok b, st2, ev2) => (.ok (.bool (Value.peq a b)), st2, ev ++ ev2)
      | (r', st2, ev2) => (r', st2, ev ++ ev2)
    | other => other
  | .neq l r, st =>
    match eval env (0 :: rp) l st with
    | (.ok .none, st1, ev) => (.ok (.bool true), st1, ev)
    | (.ok a, st1, ev) =>
      match eval env (1 :: rp) r st1 with
      | (.ok b, st2, ev2) => (.ok (.bool (!Value.peq a b)), st2, ev ++ ev2)
      | (r', st2, ev2) => (r', st2, ev ++ ev2)
    | other => other
  | .un op e, st =>
    match eval env (0 :: rp) e st with
    | (.ok v, st1, ev) => (applyUn env.oracle op v, st1, ev)
    | other => other
  | .bin op l r, st =>
    match eval env (0 :: rp) l st with
    | (.ok a, st1, ev) =>
      match eval env (1 :: rp) r st1 with
      | (.ok b, st2, ev2) => (applyBin env.oracle op a b, st2, ev ++ ev2)
      | (r', st2, ev2) => (r', st2, ev ++ ev2)
    | other => other
  | .vec xs, st =>
    match evalList env rp 0 xs st with
    | (.ok vs, st1, ev) => (.ok (.vec vs), st1, ev)
    | (.err e, st1, ev) => (.err e, st1, ev)
    | (.panic s, st1, ev) => (.panic s, st1, ev)
    | (.frontier o a, st1, ev) => (.frontier o a, st1, ev)
  | .map kvs, st =>
    match evalMap env rp 0 kvs st with
    | (.ok vs, st1, ev) => (.ok (.map vs), st1, ev)
    | (.err e, st1, ev) => (.err e, st1, ev)
    | (.panic s, st1, ev) => (.panic s, st1, ev)
    | (.frontier o a, st1, ev) => (.frontier o a, st1, ev)

def evalList (env : Env) (rp : List Nat) (i : Nat) : List Expr → St → Res (List Value) × St × List Event
  | [], st => (.ok [], st, [])
  | e :: es, st =>
    match eval env (i :: rp) e st with
    | (.ok v, st1, ev) =>
      match evalList env rp (i + 1) es st1 with
      | (.ok vs, st2, ev2) => (.ok (v :: vs), st2, ev ++ ev2)
      | (.err x, st2, ev2) => (.err x, st2, ev ++ ev2)
      | (.panic s, st2, ev2) => (.panic s, st2, ev ++ ev2)
      | (.frontier o a, st2, ev2) => (.frontier o a, st2, ev ++ ev2)
    | (.err x, st1, ev) => (.err x, st1, ev)
    | (.panic s, st1, ev) => (.panic s, st1, ev)
    | (.frontier o a, st1, ev) => (.frontier o a, st1, ev)

def evalMap (env : Env) (rp : List Nat) (i : Nat) : List (Str × Expr) → St → Res (List (Str × Value)) × St × List Event
  | [], st => (.ok [], st, [])
  | (k, e) :: es, st =>
    match eval env (i :: rp) e st with
    | (.ok v, st1, ev) =>
      match evalMap env rp (i + 1) es st1 with
      | (.ok vs, st2, ev2) => (.ok ((k, v) :: vs), st2, ev ++ ev2)
      | (.err x, st2, ev2) => (.err x, st2, ev ++ ev2)
      | (.panic s, st2, ev2) => (.panic s, st2, ev ++ ev2)
      | (.frontier o a, st2, ev2) => (.frontier o a, st2, ev ++ ev2)
    | (.err x, st1, ev) => (.err x, st1, ev)
    | (.panic s, st1, ev) => (.panic s, st1, ev)
    | (.frontier o a, st1, ev) => (.frontier o a, st1, ev)
end

/-- `Expr::evaluate(facts)`: empty ruleset (no functions, no symbols), fresh cache. -/
def evaluateExpr (o : Oracle) (e : Expr) (facts : Value) : Res Value :=
  (eval ⟨facts, [], [], o⟩ [] e St.init).1

end Reval
