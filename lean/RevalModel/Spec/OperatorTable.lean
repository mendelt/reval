/-
  Spec/OperatorTable.lean — the operator table the properties C02–C04 speak about, written
  declaratively and organised *by operand type* (the implementation is organised by operator):

  * `UnOp.sig` / `BinOp.sig`   : the explicitly supported operand types / ordered type pairs,
  * `cellUn` / `cellBin`       : what a supported cell computes, from the type's own primitives,
  * `BinOp.noneRule`           : what a binary operator does with a `None` operand (the unary rule is in `tableUn`),
  * `tableUn` / `tableBin`     : signature lookup, then the cell, else the None rule, else a type error.

  `Lemmas/Table.lean` proves `applyUn = tableUn` and `applyBin = tableBin`.
-/
import RevalModel.Impl.Eval

namespace Reval

/-! ### Signatures -/

def UnOp.sig : UnOp → List Ty
  | .not => [.bool]
  | .neg => [.int, .float, .dec]
  | .some | .isNone => Ty.all
  | .toInt | .toFloat | .toDec => [.int, .float, .dec, .str]
  | .dateTime => [.str, .int, .dateTime]
  | .duration => [.int, .duration]
  | .upper | .lower | .trim => [.str]
  | .round | .floor | .fract => [.float, .dec]
  | .year | .month => [.dateTime]
  | .week => [.int, .duration]
  | .day | .hour | .minute | .second => [.int, .dateTime, .duration]

def BinOp.sig : BinOp → List (Ty × Ty)
  | .mult | .div | .rem => [(.int, .int), (.float, .float), (.dec, .dec)]
  | .add => [(.int, .int), (.float, .float), (.dec, .dec), (.dateTime, .duration)]
  | .sub => [(.int, .int), (.float, .float), (.dec, .dec), (.dateTime, .dateTime), (.dateTime, .duration),
             (.duration, .duration)]
  | .gt | .gte | .lt | .lte =>
      [(.int, .int), (.float, .float), (.dec, .dec), (.dateTime, .dateTime), (.duration, .duration)]
  | .bitAnd | .bitOr | .bitXor => [(.int, .int), (.bool, .bool)]
  | .contains => [(.map, .str), (.str, .str), (.int, .int)] ++ Ty.all.map (fun t => (.vec, t))

/-- What an operator does with a `None` operand that is not covered by its signature. -/
inductive NoneRule where
  | propagate      -- None in either position gives None
  | isFalse        -- None in either position gives false
  | collFalse      -- (membership) a None collection gives false; a None item is an ordinary operand
deriving DecidableEq, Repr

def BinOp.noneRule : BinOp → NoneRule
  | .mult | .div | .rem | .add | .sub | .bitAnd | .bitOr | .bitXor => .propagate
  | .gt | .gte | .lt | .lte => .isFalse
  | .contains => .collFalse

/-! ### Cells, by operand type -/

def ofOpt (r : Option Int) (e : Err) (mk : Int → Value) : Res Value :=
  match r with
  | some x => .ok (mk x)
  | none => .err e

def cmpInt : BinOp → Int → Int → Bool
  | .gt, a, b => decide (a > b)
  | .gte, a, b => decide (a ≥ b)
  | .lt, a, b => decide (a < b)
  | .lte, a, b => decide (a ≤ b)
  | _, _, _ => false

/-- Int × Int -/
def intCell : BinOp → Int → Int → Res Value
  | .add, a, b => ofOpt (I128.checked (a + b)) (.outOfBounds (.int a)) .int
  | .sub, a, b => ofOpt (I128.checked (a - b)) (.outOfBounds (.int a)) .int
  | .mult, a, b => ofOpt (I128.checked (a * b)) (.outOfBounds (.int a)) .int
  | .div, a, b => ofOpt (I128.checkedDiv a b) .divByZero .int
  | .rem, a, b => ofOpt (I128.checkedRem a b) .divByZero .int
  | .bitAnd, a, b => .ok (.int (I128.land a b))
  | .bitOr, a, b => .ok (.int (I128.lor a b))
  | .bitXor, a, b => .ok (.int (I128.xor a b))
  | .contains, a, b => .ok (.bool (I128.land a b != 0))
  | op, a, b => .ok (.bool (cmpInt op a b))

/-- Float × Float (IEEE-754) -/
def floatCell : BinOp → F64 → F64 → Res Value
  | .add, a, b => .ok (.float (F64.add a b))
  | .sub, a, b => .ok (.float (F64.sub a b))
  | .mult, a, b => .ok (.float (F64.mul a b))
  | .div, a, b => .ok (.float (F64.div a b))
  | .rem, a, b => .ok (.float (F64.rem a b))
  | .gt, a, b => .ok (.bool (F64.gt a b))
  | .gte, a, b => .ok (.bool (F64.ge a b))
  | .lt, a, b => .ok (.bool (F64.lt a b))
  | .lte, a, b => .ok (.bool (F64.le a b))
  | _, _, _ => .err .invalidType

/-- Decimal × Decimal (96-bit decimal arithmetic; rounding cases are the library's) -/
def decCell (o : Oracle) : BinOp → Dec → Dec → Res Value
  | .add, a, b => Impl.decOut o .decAdd [.dec a, .dec b] (.outOfBounds (.dec a)) (Dec.add a b)
  | .sub, a, b => Impl.decOut o .decSub [.dec a, .dec b] (.outOfBounds (.dec a)) (Dec.sub a b)
  | .mult, a, b => Impl.decOut o .decMul [.dec a, .dec b] (.outOfBounds (.dec a)) (Dec.mul a b)
  | .div, a, b => if b.mant = 0 then .err .divByZero else o.ask .decDiv [.dec a, .dec b] (.err .divByZero)
  | .rem, a, b => if b.mant = 0 then .err .divByZero else o.ask .decRem [.dec a, .dec b] (.err .divByZero)
  | .gt, a, b => .ok (.bool (Dec.lt b a))
  | .gte, a, b => .ok (.bool (Dec.le b a))
  | .lt, a, b => .ok (.bool (Dec.lt a b))
  | .lte, a, b => .ok (.bool (Dec.le a b))
  | _, _, _ => .err .invalidType

def boolCell : BinOp → Bool → Bool → Res Value
  | .bitAnd, a, b => .ok (.bool (a && b))
  | .bitOr, a, b => .ok (.bool (a || b))
  | .bitXor, a, b => .ok (.bool (a != b))
  | _, _, _ => .err .invalidType

/-- what a supported cell computes -/
def cellBin (o : Oracle) (op : BinOp) : Value → Value → Res Value
  | .int a, .int b => intCell op a b
  | .float a, .float b => floatCell op a b
  | .dec a, .dec b => decCell o op a b
  | .bool a, .bool b => boolCell op a b
  | .dateTime a, .duration b =>
    match op with
    | .add => if Time.dtInRange (a + b) then .ok (.dateTime (a + b)) else .err (.outOfBounds (.dateTime a))
    | .sub => if Time.dtInRange (a - b) then .ok (.dateTime (a - b)) else .err (.outOfBounds (.dateTime a))
    | _ => .err .invalidType
  | .dateTime a, .dateTime b =>
    match op with
    | .sub => .ok (.duration (a - b))
    | op => .ok (.bool (cmpInt op a b))
  | .duration a, .duration b =>
    match op with
    | .sub => if Time.durInRange (a - b) then .ok (.duration (a - b)) else .err (.outOfBounds (.duration a))
    | op => .ok (.bool (cmpInt op a b))
  | .map m, .str k => .ok (.bool (lookup m k).isSome)
  | .str c, .str i => .ok (.bool (Str.isInfix i c))
  | .vec xs, item => .ok (.bool (xs.any (fun x => Value.peq x item)))
  | _, _ => .err .invalidType

def tableBin (o : Oracle) (op : BinOp) (a b : Value) : Res Value :=
  if (a.ty, b.ty) ∈ op.sig then cellBin o op a b
  else
    match op.noneRule with
    | .propagate => if a.ty = .none ∨ b.ty = .none then .ok .none else .err .invalidType
    | .isFalse => if a.ty = .none ∨ b.ty = .none then .ok (.bool false) else .err .invalidType
    | .collFalse => if a.ty = .none then .ok (.bool false) else .err .invalidType

/-- unary cells, by operand type -/
def cellUn (o : Oracle) (op : UnOp) (v : Value) : Res Value :=
  match op, v with
  | .some, .none => .ok (.bool false)
  | .some, _ => .ok (.bool true)
  | .isNone, .none => .ok (.bool true)
  | .isNone, _ => .ok (.bool false)
  | .not, .bool b => .ok (.bool (!b))
  | .neg, .int i => ofOpt (I128.checked (-i)) (.outOfBounds (.int i)) .int
  | .neg, .float f => .ok (.float (F64.neg f))
  | .neg, .dec d => .ok (.dec (Dec.negate d))
  -- casts
  | .toInt, .int i => .ok (.int i)
  | .toInt, .float f =>
    match F64.truncToInt f with
    | some n => if I128.inRange n then .ok (.int n) else .err (.invalidCast v)
    | none => .err (.invalidCast v)
  | .toInt, .dec d => .ok (.int (Dec.toInt d))
  | .toInt, .str s => ofOpt (Str.parseI128 s) (.invalidCast v) .int
  | .toFloat, .int i => .ok (.float (F64.ofInt i))
  | .toFloat, .float f => .ok (.float f)
  | .toFloat, .dec _ => o.ask .decToF64 [v] (.err (.invalidCast v))
  | .toFloat, .str _ => o.ask .strToF64 [v] (.err (.invalidCast v))
  | .toDec, .int i =>
    match Dec.ofInt i with
    | some d => .ok (.dec d)
    | none => .err (.invalidCast v)
  | .toDec, .float _ => o.ask .f64ToDec [v] (.err (.invalidCast v))
  | .toDec, .dec d => .ok (.dec d)
  | .toDec, .str _ => o.ask .strToDec [v] (.err (.invalidCast v))
  | .dateTime, .str _ => o.ask .strToDateTime [v] (.err (.invalidCast v))
  | .dateTime, .int i =>
    if I64.inRange i then ofOpt (Time.fromTimestamp i) (.invalidCast v) .dateTime else .err (.invalidCast v)
  | .dateTime, .dateTime t => .ok (.dateTime t)
  | .duration, .int i =>
    if I64.inRange i then ofOpt (Time.trySeconds i) (.invalidCast v) .duration else .err (.invalidCast v)
  | .duration, .duration d => .ok (.duration d)
  -- strings
  | .upper, .str s => if Str.isAscii s then .ok (.str (s.map Str.asciiUpper)) else o.ask .strUpper [v] (.frontier .strUpper [v])
  | .lower, .str s => if Str.isAscii s then .ok (.str (s.map Str.asciiLower)) else o.ask .strLower [v] (.frontier .strLower [v])
  | .trim, .str s => .ok (.str (Str.trim s))
  -- rounding
  | .round, .float f => .ok (.float (F64.round f))
  | .floor, .float f => .ok (.float (F64.floor f))
  | .fract, .float f => .ok (.float (F64.fract f))
  | .round, .dec d => Impl.decOut o .decRound [v] .invalidType (Dec.round d)
  | .floor, .dec d => Impl.decOut o .decFloor [v] .invalidType (Dec.floor d)
  | .fract, .dec d => Impl.decOut o .decFract [v] .invalidType (Dec.fract d)
  -- date/time
  | .year, .dateTime t => .ok (.int (Time.year t))
  | .month, .dateTime t => .ok (.int (Time.month t))
  | .day, .dateTime t => .ok (.int (Time.day t))
  | .hour, .dateTime t => .ok (.int (Time.hour t))
  | .minute, .dateTime t => .ok (.int (Time.minute t))
  | .second, .dateTime t => .ok (.int (Time.second t))
  | .week, .duration d => .ok (.int (Time.numUnits 604800 d))
  | .day, .duration d => .ok (.int (Time.numUnits 86400 d))
  | .hour, .duration d => .ok (.int (Time.numUnits 3600 d))
  | .minute, .duration d => .ok (.int (Time.numUnits 60 d))
  | .second, .duration d => .ok (.int (Time.numUnits 1 d))
  | .week, .int i => Impl.mkDuration 604800 v i
  | .day, .int i => Impl.mkDuration 86400 v i
  | .hour, .int i => Impl.mkDuration 3600 v i
  | .minute, .int i => Impl.mkDuration 60 v i
  | .second, .int i => Impl.mkDuration 1 v i
  | _, _ => .err .invalidType

def tableUn (o : Oracle) (op : UnOp) (v : Value) : Res Value :=
  if v.ty ∈ op.sig then cellUn o op v
  else if v.ty = .none then .ok .none
  else .err .invalidType

end Reval
