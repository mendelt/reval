/-
  Lemmas/SerRange.lean — what `ValueSerializer` produces is representable (`Value.inRange`): the integers of the serde
  data model are i8 … u128 and only those within i128 become a `Value::Int`; bytes are bytes.  With
  `Lemmas/InRange.lean` this gives the same for every outcome of `RuleSet::evaluate(&T)`.
-/
import RevalModel.Lemmas.InRange
import RevalModel.Lemmas.Json

namespace Reval

mutual
/-- byte strings hold bytes (the only numbers that `serialize` passes on without a range test of its own); the
    hypothesis of `C13.image_in_range` and `C13.evaluate_outcomes_in_range` -/
def SerVal.bytesOK : SerVal → Bool
  | .bytes bs => bs.all (fun b => decide (b < 256))
  | .some v => v.bytesOK
  | .newtypeStruct _ v => v.bytesOK
  | .newtypeVariant _ _ v => v.bytesOK
  | .seq xs => SerVal.bytesOKList xs
  | .tuple xs => SerVal.bytesOKList xs
  | .tupleStruct _ xs => SerVal.bytesOKList xs
  | .tupleVariant _ _ xs => SerVal.bytesOKList xs
  | .map kvs => SerVal.bytesOKEntries kvs
  | .struct _ fs => SerVal.bytesOKFields fs
  | .structVariant _ _ fs => SerVal.bytesOKFields fs
  | _ => true
def SerVal.bytesOKList : List SerVal → Bool
  | [] => true
  | x :: xs => x.bytesOK && SerVal.bytesOKList xs
def SerVal.bytesOKEntries : List (SerVal × SerVal) → Bool
  | [] => true
  | (_, v) :: r => v.bytesOK && SerVal.bytesOKEntries r
def SerVal.bytesOKFields : List (Str × SerVal) → Bool
  | [] => true
  | (_, v) :: r => v.bytesOK && SerVal.bytesOKFields r
end

theorem insertSorted_inRange {k : Str} {v : Value} {m : List (Str × Value)}
    (hv : v.inRange = true) (hm : Value.inRangeFields m = true) : Value.inRangeFields (insertSorted k v m) = true := by
  rw [inRangeFields_iff] at *
  intro kv hkv
  rcases mem_insertSorted k v m kv hkv with rfl | h
  · exact hv
  · exact hm kv h

/-- stated on the membership form of `bs.all (· < 256)` and with the cast `(b : Int)`, as `simp` meets them -/
theorem bytes_inRange (bs : List Nat) (h : ∀ b ∈ bs, b < 256) :
    Value.inRangeList (bs.map (fun (b : Nat) => Value.int (b : Int))) = true := by
  simp only [inRangeList_iff, List.mem_map]
  rintro _ ⟨b, hb, rfl⟩
  simp only [Value.inRange]; rw [I128.inRange_iff]; have := h b hb; omega

theorem serialize_inRange_all :
    (∀ v, v.bytesOK = true → (Ser.serialize v).All (·.inRange = true)) ∧
    (∀ fs acc, SerVal.bytesOKFields fs = true → Value.inRangeFields acc = true →
        (Ser.serializeFields fs acc).All (Value.inRangeFields · = true)) ∧
    (∀ kvs acc, SerVal.bytesOKEntries kvs = true → Value.inRangeFields acc = true →
        (Ser.serializeEntries kvs acc).All (Value.inRangeFields · = true)) ∧
    (∀ xs, SerVal.bytesOKList xs = true → (Ser.serializeList xs).All (Value.inRangeList · = true)) := by
  apply Ser.serialize.mutual_induct
  -- each arm is a leaf, a `Res.map` of an induction hypothesis or a match that passes a non-value outcome on; in the
  -- two loops `insertSorted_inRange` keeps the accumulator in range
  all_goals intros
  all_goals
    simp_all [Ser.serialize, Ser.serializeList, Ser.serializeFields, Ser.serializeEntries,
      Value.inRange, Value.inRangeList, Value.inRangeFields, SerVal.bytesOK, SerVal.bytesOKList,
      SerVal.bytesOKEntries, SerVal.bytesOKFields, insertSorted_inRange, bytes_inRange, Ser.keyString_ne_panic]

theorem serialize_inRange {v : SerVal} {x : Value} (hb : v.bytesOK = true) (h : Ser.serialize v = .ok x) :
    x.inRange = true := (serialize_inRange_all.1 v hb).of_eq h

theorem evaluate_inRange {env : Env} (he : env.InRange) (rules : List Expr) (input : SerVal)
    (hb : input.bytesOK = true) (hl : ∀ e ∈ rules, e.litsInRange = true)
    {out : List (Res Value) × St × List Event} (h : evaluate env rules input = .ok out) :
    ∀ r ∈ out.1, ∀ v, r = .ok v → v.inRange = true := by
  unfold evaluate at h
  split at h
  · rename_i facts hf
    injection h with h; subst h
    have hfr := serialize_inRange hb hf
    exact evalRules_inRange (env := { env with facts := facts })
      ⟨hfr, he.symbols, he.fns, he.oracle⟩ rules 0 St.init hl St.init_inRange
  all_goals simp at h

end Reval
