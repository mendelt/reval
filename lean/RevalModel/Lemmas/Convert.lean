/-
  Lemmas/Convert.lean — the conversions of `value/convert.rs` through what they are built from: `tryInt` succeeds exactly
  on an Int within the type's range, `collect` is all-or-first-error, `From<BTreeMap<String, V>> for Value` keeps the
  entries of a map as they are (keys unchanged, in key order).
-/
import RevalModel.Impl.Convert
import RevalModel.Lemmas.Sorted

namespace Reval
open Conv

theorem tryInt_ok_iff (k : IntKind) (v : Value) (m : Int) : tryInt k v = .ok m ↔ v = .int m ∧ k.inRange m = true := by
  cases v <;> simp only [tryInt, reduceCtorEq, false_and]
  split <;> simp only [Except.ok.injEq, Value.int.injEq, reduceCtorEq, false_iff, not_and]
  · exact ⟨fun e => ⟨e, e ▸ ‹_›⟩, fun e => e.1⟩
  · exact fun e => e ▸ ‹_›

theorem collect_cons_ok {α β} (f : α → Except Err β) (x : α) (xs : List α) (ys : List β) :
    collect f (x :: xs) = .ok ys ↔ ∃ y ys', f x = .ok y ∧ collect f xs = .ok ys' ∧ ys = y :: ys' := by
  simp only [collect]; cases f x <;> cases collect f xs <;> simp [eq_comm]

theorem collect_map {α β} (f : α → Except Err β) (g : β → α) : ∀ (xs : List β), (∀ b ∈ xs, f (g b) = .ok b) →
    collect f (xs.map g) = .ok xs
  | [], _ => rfl
  | x :: xs, h => by
    simp [collect, h x (by simp), collect_map f g xs (fun b hb => h b (by simp [hb]))]

theorem collect_first_error {α β} (f : α → Except Err β) (x : α) (post : List α) (e : Err) (hx : f x = .error e) :
    ∀ pre : List α, (∀ v ∈ pre, ∃ y, f v = .ok y) → collect f (pre ++ x :: post) = .error e
  | [], _ => by simp [collect, hx]
  | p :: ps, hpre => by
    obtain ⟨y, hy⟩ := hpre p (by simp)
    simp [collect, hy, collect_first_error f x post e hx ps fun v hv => hpre v (by simp [hv])]

theorem fromMap_sorted {α} (into : α → Value) (kvs : List (Str × α)) (h : KeysSorted kvs) :
    fromMap into kvs = .map (kvs.map (fun kv => (kv.1, into kv.2))) := by
  have h2 := foldl_insert_eq_append (kvs.map (fun kv => (kv.1, into kv.2))) [] (by simpa using keysSorted_map into kvs h)
  rw [List.foldl_map] at h2
  -- the folding functions of `fromMap` and of `h2` agree by eta on the pair
  exact congrArg Value.map h2

end Reval
