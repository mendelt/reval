/-
  Lemmas/ParserBasic.lean — by induction on the fuel over all eleven mutually recursive parsing functions at once: what
  remains after a successful parse is a suffix of the input, and no function panics on tokens whose text has the shape
  the lexer guarantees (`TokWF`) — together, `Tame`.  The rule parser `pRule` is tame in the same way.
-/
import RevalModel.Impl.RuleParse

namespace Reval

/-- the shape the token regexes guarantee (what makes the prefix slices of the grammar actions safe) -/
def TokWF : Tok → Prop
  | .int t => 1 ≤ t.length
  | .float t => 1 ≤ t.length
  | .dec t => 1 ≤ t.length
  | .hex t => 2 ≤ t.length
  | .oct t => 2 ≤ t.length
  | .bin t => 2 ≤ t.length
  | .str t => 2 ≤ t.length
  | _ => True

def AllWF (ts : List Tok) : Prop := ∀ t ∈ ts, TokWF t

theorem sliceFrom_of_le {k : Nat} {t : Str} (h : k ≤ t.length) : Lit.sliceFrom k t = some (t.drop k) :=
  if_neg (Nat.not_lt.2 h)

/-- the only panics of the literal actions are slices beyond the end of the text, which `TokWF` excludes -/
theorem ofTok_noPanic (o : Oracle) (t : Tok) (h : TokWF t) : (Lit.ofTok o t).isPanic = false := by
  cases t
  case kw | ident | index | p => rfl
  case str =>
    simp only [Lit.ofTok, if_neg (Nat.not_lt.2 h)]
    split <;> rfl
  all_goals
    simp only [Lit.ofTok, sliceFrom_of_le h]
    repeat' split
    all_goals rfl

theorem parseRadix_out_of_range {radix : Nat} {ds : Str} {n : Nat} (h : Lit.ofRadix radix ds = some n)
    (hr : I128.inRange (n : Int) = false) : Lit.parseRadix radix ds = none := by
  unfold Lit.parseRadix
  split
  · rfl
  · simp [h, I128.checked, hr]

theorem AllWF_sub {ts r : List Tok} (h : AllWF ts) (hs : r ⊆ ts) : AllWF r := fun t ht => h t (hs ht)

theorem AllWF_tail {t : Tok} {r : List Tok} (h : AllWF (t :: r)) : AllWF r := fun x hx => h x (List.mem_cons_of_mem _ hx)

theorem AllWF_head {t : Tok} {r : List Tok} (h : AllWF (t :: r)) : TokWF t := h t (List.mem_cons_self)

def NP {α : Type} (r : PR α) : Prop := ∀ s, r ≠ .panic s

theorem NP_iff {α : Type} {x : PR α} : NP x ↔ x.isPanic = false := by
  cases x <;> simp [NP, PR.isPanic]

theorem ofTok_NP (o : Oracle) (t : Tok) (h : TokWF t) : NP (Lit.ofTok o t) := NP_iff.2 (ofTok_noPanic o t h)

/-- both halves speak of the WHOLE input `ts`, so a fact about a call on a later suffix is carried back to `ts` by `mono`,
    never established again -/
def Tame {α : Type} (x : PR α) (ts : List Tok) : Prop := (∀ a r, x = .ok a r → r <:+ ts) ∧ (AllWF ts → NP x)

namespace Tame
variable {α β : Type} {x : PR α} {ts us r : List Tok} {a : α}

theorem ok (h : r <:+ ts) : Tame (.ok a r) ts := ⟨fun _ _ e => by cases e; exact h, fun _ _ => nofun⟩
theorem error : Tame (.error : PR α) ts := ⟨nofun, fun _ _ => nofun⟩
theorem frontier {op args} : Tame (.frontier op args : PR α) ts := ⟨nofun, fun _ _ => nofun⟩
theorem rest (g : Tame x ts) (h : x = .ok a r) : r <:+ ts := g.1 a r h
theorem mono (g : Tame x us) (h : us <:+ ts) : Tame x ts :=
  ⟨fun a r e => (g.1 a r e).trans h, fun w => g.2 (AllWF_sub w h.subset)⟩
theorem tail {t : Tok} (g : Tame x ts) : Tame x (t :: ts) := g.mono (List.suffix_cons _ _)
theorem ok_of (g : Tame x ts) (h : x = .ok a r) (b : β) : Tame (.ok b r) ts := ok (g.rest h)
theorem panic_of {s} (g : Tame x ts) (h : x = .panic s) : Tame (.panic s : PR β) ts :=
  ⟨nofun, fun w => absurd h (g.2 w s)⟩

/-- a tame call, then a continuation that is tame given where the call stopped: the shape
    `match call with | .ok a r => k a r | other => other` of the calls in the parser.  It applies to the unfolded bodies by
    `exact` / `refine` only (the two matchers unfold to each other; `rw` / `simp` do not see it), and at `PR Expr` only -/
theorem bind {x : PR Expr} {k : Expr → List Tok → PR Expr} (g : Tame x ts) (h : ∀ a r, r <:+ ts → Tame (k a r) ts) :
    Tame (match x with | .ok a r => k a r | other => other) ts := by
  split
  next a r => exact h a r (g.rest rfl)
  next => exact g

/-- `bind` for the calls whose result changes type (`pIf` inside `pVecItems`, `pMapItems`) -/
theorem bind4 {β : Type} {x : PR Expr} {k : Expr → List Tok → PR β} (g : Tame x ts) (h : ∀ a r, r <:+ ts → Tame (k a r) ts) :
    Tame (match x with | .ok a r => k a r | .error => .error | .panic s => .panic s | .frontier o a => .frontier o a) ts := by
  split
  next a r => exact h a r (g.rest rfl)
  next => exact .error
  next => exact g.panic_of rfl
  next => exact .frontier

theorem next {t : Tok} {r : List Tok} (s : t :: r <:+ ts) : r <:+ ts := (List.suffix_cons _ _).trans s

/-- for the `if`s of the bodies (`split` would simplify the whole goal for each) -/
theorem ite {c : Prop} [Decidable c] {x y : PR α} (hx : c → Tame x ts) (hy : ¬ c → Tame y ts) :
    Tame (if c then x else y) ts := by
  split
  · exact hx ‹_›
  · exact hy ‹_›
end Tame

structure TameAll (o : Oracle) (f : Nat) : Prop where
  pIf : ∀ ts, Tame (pIf o f ts) ts
  pBin : ∀ k ts, Tame (pBin o f k ts) ts
  pBinLoop : ∀ k acc ts, Tame (pBinLoop o f k acc ts) ts
  pContains : ∀ ts, Tame (pContains o f ts) ts
  pContainsTail : ∀ ts, Tame (pContainsTail o f ts) ts
  pUnary : ∀ ts, Tame (pUnary o f ts) ts
  pIndex : ∀ ts, Tame (pIndex o f ts) ts
  pIndexLoop : ∀ acc ts, Tame (pIndexLoop o f acc ts) ts
  pTerm : ∀ ts, Tame (pTerm o f ts) ts
  pVecItems : ∀ ts, Tame (pVecItems o f ts) ts
  pMapItems : ∀ ts, Tame (pMapItems o f ts) ts

section
variable {o : Oracle} {f : Nat} (ih : TameAll o f)
include ih
open List (suffix_cons suffix_refl)

/-- `e )` from `r` on, a part of the input `ts`: the shape of a call, a keyword function and a parenthesis in `pTerm` -/
theorem tame_paren {ts r : List Tok} (s : r <:+ ts) (mk : Expr → Expr) :
    Tame (match pIf o f r with
      | .ok e r2 => (match r2 with | .p [')'] :: r3 => .ok (mk e) r3 | _ => .error)
      | other => other) ts :=
  .bind ((ih.pIf r).mono s) fun e r2 s2 => by
    split
    next r3 => exact .ok (Tame.next s2)
    next => exact .error

/- The induction step.  Each part follows the body of its function; where the body is "a call, then on with what it
   returned", the step is `.bind` (the call is tame; the rest is tame given the suffix `s` where the call stopped). -/
theorem tameAll_succ : TameAll o (f + 1) where
  pIf ts := by
    unfold Reval.pIf
    split
    next k r =>
      refine .ite (fun _ => ?_) fun _ => ih.pBin 1 _
      refine .bind (ih.pIf r).tail fun c r1 s1 => ?_
      split
      next k1 r2 =>
        refine .ite (fun _ => ?_) fun _ => .error
        refine .bind ((ih.pIf r2).mono (Tame.next s1)) fun t r3 s3 => ?_
        split
        next k2 r4 =>
          exact .ite (fun _ => .bind ((ih.pIf r4).mono (Tame.next s3)) fun e r5 s5 => .ok s5) fun _ => .error
        next => exact .error
      next => exact .error
    next => exact ih.pBin 1 _

  pBin k ts := by
    unfold Reval.pBin
    exact .ite (fun _ => ih.pContains ts) fun _ => .bind (ih.pBin (k+1) ts) fun x r s => (ih.pBinLoop k x r).mono s

  pBinLoop k acc ts := by
    unfold Reval.pBinLoop
    split
    next t r =>
      split
      next mk _ => exact .bind (ih.pBin (k+1) r).tail fun x r1 s => (ih.pBinLoop k _ r1).mono s
      next => exact .ok (suffix_refl _)
    next => exact .ok (suffix_refl _)

  pContains ts := by
    unfold Reval.pContains
    split
    next s r => exact .ite (fun _ => ih.pUnary _) fun _ => ih.pContainsTail _
    next => exact ih.pContainsTail _

  pContainsTail ts := by
    unfold Reval.pContainsTail
    refine .bind (ih.pIndex ts) fun x r s => ?_
    split
    next k r1 =>
      have g1 : Tame (pIndex o f r1) ts := (ih.pIndex r1).mono (Tame.next s)
      exact .ite (fun _ => g1.bind fun _ _ s => .ok s) fun _ => .ite (fun _ => g1.bind fun _ _ s => .ok s) fun _ => .ok s
    next => exact .ok s

  pUnary ts := by
    unfold Reval.pUnary
    split
    next s r =>
      have g := (ih.pUnary r).tail (t := .p s)
      exact .ite (fun _ => g.bind fun _ _ s => .ok s) fun _ => .ite (fun _ => g.bind fun _ _ s => .ok s) fun _ => ih.pIndex _
    next => exact ih.pIndex _

  pIndex ts := by
    unfold Reval.pIndex
    exact .bind (ih.pTerm ts) fun x r s => (ih.pIndexLoop x r).mono s

  pIndexLoop acc ts := by
    unfold Reval.pIndexLoop
    split
    next s r =>
      refine .ite (fun _ => ?_) fun _ => .ok (suffix_refl _)
      split
      next k r1 => exact (ih.pIndexLoop _ r1).tail.tail
      next ds r1 => exact .ite (fun _ => (ih.pIndexLoop _ r1).tail.tail) fun _ => .error
      next => exact .error
    next => exact .ok (suffix_refl _)

  pTerm ts := by
    unfold Reval.pTerm
    have lit {k : Str} {r : List Tok} {v w : Value} {c d : Prop} [Decidable c] [Decidable d] :
        Tame (if c then .ok (.lit v) r else if d then .ok (.lit w) r else .error : PR Expr) (.kw k :: r) :=
      .ite (fun _ => .ok (suffix_cons _ _)) fun _ => .ite (fun _ => .ok (suffix_cons _ _)) fun _ => .error
    split
    next => exact .error
    next k r =>
      split
      next r1 =>
        split
        next op _ => exact tame_paren ih ((suffix_cons _ _).trans (suffix_cons _ _)) _
        next => exact lit
      next => exact .ite (fun _ => .ok (suffix_cons _ _)) fun _ => lit
    next x r =>
      split
      next r1 => exact tame_paren ih ((suffix_cons _ _).trans (suffix_cons _ _)) _
      next => exact .ok (suffix_cons _ _)
    next s r =>
      refine .ite (fun _ => ?_) fun _ => .ite (fun _ => tame_paren ih (suffix_cons _ _) _) fun _ =>
        .ite (fun _ => ?_) fun _ => .ite (fun _ => ?_) fun _ => .error
      · split
        next x r1 => exact .ok ((suffix_cons _ _).trans (suffix_cons _ _))
        next => exact .error
      · have g := (ih.pVecItems r).tail (t := .p s)
        split
        next h => exact g.ok_of h _
        next => exact .error
        next h => exact g.panic_of h
        next => exact .frontier
      · have g := (ih.pMapItems r).tail (t := .p s)
        split
        next h => exact g.ok_of h _
        next => exact .error
        next h => exact g.panic_of h
        next => exact .frontier
    next t r _ _ _ =>
      split
      next => exact .ok (suffix_cons _ _)
      next => exact .error
      -- the one source of a panic: the literal action; `TokWF` of the head token excludes it
      next x h => exact ⟨nofun, fun w => absurd h (ofTok_NP o t (AllWF_head w) x)⟩
      next => exact .frontier

  pVecItems ts := by
    unfold Reval.pVecItems
    split
    next => exact .ok (suffix_cons _ _)
    next =>
      refine .bind4 (ih.pIf ts) fun e r s => ?_
      split
      next r1 =>
        have g1 := (ih.pVecItems r1).mono (Tame.next s)
        split
        next h1 => exact g1.ok_of h1 _
        next => exact g1
      next r1 => exact .ok (Tame.next s)
      next => exact .error

  pMapItems ts := by
    unfold Reval.pMapItems
    split
    next => exact .ok (suffix_cons _ _)
    next k r =>
      refine .bind4 (ih.pIf r).tail.tail fun e r1 s => ?_
      split
      next r2 =>
        have g1 := (ih.pMapItems r2).mono (Tame.next s)
        split
        next h1 => exact g1.ok_of h1 _
        next => exact g1
      next r2 => exact .ok (Tame.next s)
      next => exact .error
    next => exact .error
end

theorem tameAll (o : Oracle) : ∀ f, TameAll o f
  | 0 => by constructor <;> intros <;> exact .error
  | f + 1 => tameAll_succ (tameAll o f)

theorem parseToks_noPanic (o : Oracle) (ts : List Tok) (h : AllWF ts) : (parseToks o ts).isPanic = false := by
  have := NP_iff.1 (((tameAll o (parseFuel ts)).pIf ts).2 h)
  unfold parseToks
  split
  · rfl
  · rfl
  · exact this

theorem tame_pRule (o : Oracle) : ∀ (f : Nat) (ts : List Tok) (acc : List (Str × Expr)), Tame (RuleParse.pRule o f ts acc) ts
  | 0, _, _ => .error
  | f + 1, ts, acc => by
    unfold RuleParse.pRule
    split
    next k r =>
      refine .bind4 ((tameAll o _).pIf r).tail.tail.tail fun e r1 s => ?_
      split
      next r2 => exact (tame_pRule o f r2 _).mono (Tame.next s)
      next => exact .error
    next =>
      have g := fun n => (tameAll o n).pIf ts
      split
      next => exact .ok List.nil_suffix
      next => exact .error
      next => exact .error
      next h => exact (g _).panic_of h
      next => exact .frontier

/-! ### the three readings of `tameAll`

`SubAll`, `NoPanicAll`, `LenAll`: each is `tameAll` read field by field.  Only `lenAll` is used further on (by `agree` in
Lemmas/Fuel.lean); no proof uses the three `local macro`s here or `stab_branches` in Lemmas/Fuel.lean. -/

def RSub {α : Type} (r : PR α) (ts : List Tok) : Prop := ∀ a rest, r = .ok a rest → rest ⊆ ts

structure SubAll (o : Oracle) (f : Nat) : Prop where
  pIf : ∀ ts, RSub (pIf o f ts) ts
  pBin : ∀ k ts, RSub (pBin o f k ts) ts
  pBinLoop : ∀ k acc ts, RSub (pBinLoop o f k acc ts) ts
  pContains : ∀ ts, RSub (pContains o f ts) ts
  pContainsTail : ∀ ts, RSub (pContainsTail o f ts) ts
  pUnary : ∀ ts, RSub (pUnary o f ts) ts
  pIndex : ∀ ts, RSub (pIndex o f ts) ts
  pIndexLoop : ∀ acc ts, RSub (pIndexLoop o f acc ts) ts
  pTerm : ∀ ts, RSub (pTerm o f ts) ts
  pVecItems : ∀ ts, RSub (pVecItems o f ts) ts
  pMapItems : ∀ ts, RSub (pMapItems o f ts) ts

local macro "sub_branches" h:ident : tactic =>
  `(tactic| ((repeat' split at $h:ident) <;> (try (cases $h:ident)) <;>
      (try grind [RSub, List.subset_cons_self, List.Subset.trans, List.Subset.refl])))

theorem Tame.sub {α : Type} {x : PR α} {ts : List Tok} (g : Tame x ts) : RSub x ts := fun _ _ h => (g.rest h).subset

theorem subAll (o : Oracle) : ∀ f, SubAll o f := fun f =>
  have g := tameAll o f
  ⟨fun ts => (g.pIf ts).sub, fun k ts => (g.pBin k ts).sub, fun k acc ts => (g.pBinLoop k acc ts).sub,
    fun ts => (g.pContains ts).sub, fun ts => (g.pContainsTail ts).sub, fun ts => (g.pUnary ts).sub,
    fun ts => (g.pIndex ts).sub, fun acc ts => (g.pIndexLoop acc ts).sub, fun ts => (g.pTerm ts).sub,
    fun ts => (g.pVecItems ts).sub, fun ts => (g.pMapItems ts).sub⟩

structure NoPanicAll (o : Oracle) (f : Nat) : Prop where
  pIf : ∀ ts, AllWF ts → NP (pIf o f ts)
  pBin : ∀ k ts, AllWF ts → NP (pBin o f k ts)
  pBinLoop : ∀ k acc ts, AllWF ts → NP (pBinLoop o f k acc ts)
  pContains : ∀ ts, AllWF ts → NP (pContains o f ts)
  pContainsTail : ∀ ts, AllWF ts → NP (pContainsTail o f ts)
  pUnary : ∀ ts, AllWF ts → NP (pUnary o f ts)
  pIndex : ∀ ts, AllWF ts → NP (pIndex o f ts)
  pIndexLoop : ∀ acc ts, AllWF ts → NP (pIndexLoop o f acc ts)
  pTerm : ∀ ts, AllWF ts → NP (pTerm o f ts)
  pVecItems : ∀ ts, AllWF ts → NP (pVecItems o f ts)
  pMapItems : ∀ ts, AllWF ts → NP (pMapItems o f ts)

local macro "np_branches" h:ident : tactic =>
  `(tactic| ((repeat' split at $h:ident) <;> (try (cases $h:ident)) <;>
      (try grind [NP, RSub, AllWF_sub, AllWF_tail, AllWF_head, ofTok_NP, List.subset_cons_self, List.Subset.trans,
        List.Subset.refl])))

theorem noPanicAll (o : Oracle) : ∀ f, NoPanicAll o f := fun f =>
  have g := tameAll o f
  ⟨fun ts => (g.pIf ts).2, fun k ts => (g.pBin k ts).2, fun k acc ts => (g.pBinLoop k acc ts).2,
    fun ts => (g.pContains ts).2, fun ts => (g.pContainsTail ts).2, fun ts => (g.pUnary ts).2, fun ts => (g.pIndex ts).2,
    fun acc ts => (g.pIndexLoop acc ts).2, fun ts => (g.pTerm ts).2, fun ts => (g.pVecItems ts).2,
    fun ts => (g.pMapItems ts).2⟩

def RLen {α : Type} (r : PR α) (ts : List Tok) : Prop := ∀ a rest, r = .ok a rest → rest.length ≤ ts.length

structure LenAll (o : Oracle) (f : Nat) : Prop where
  pIf : ∀ ts, RLen (pIf o f ts) ts
  pBin : ∀ k ts, RLen (pBin o f k ts) ts
  pBinLoop : ∀ k acc ts, RLen (pBinLoop o f k acc ts) ts
  pContains : ∀ ts, RLen (pContains o f ts) ts
  pContainsTail : ∀ ts, RLen (pContainsTail o f ts) ts
  pUnary : ∀ ts, RLen (pUnary o f ts) ts
  pIndex : ∀ ts, RLen (pIndex o f ts) ts
  pIndexLoop : ∀ acc ts, RLen (pIndexLoop o f acc ts) ts
  pTerm : ∀ ts, RLen (pTerm o f ts) ts
  pVecItems : ∀ ts, RLen (pVecItems o f ts) ts
  pMapItems : ∀ ts, RLen (pMapItems o f ts) ts

local macro "len_branches" h:ident : tactic =>
  `(tactic| ((repeat' split at $h:ident) <;> (try (cases $h:ident)) <;>
      (try grind [RLen, List.length_cons])))

theorem Tame.len {α : Type} {x : PR α} {ts : List Tok} (g : Tame x ts) : RLen x ts := fun _ _ h => (g.rest h).length_le

theorem lenAll (o : Oracle) : ∀ f, LenAll o f := fun f =>
  have g := tameAll o f
  ⟨fun ts => (g.pIf ts).len, fun k ts => (g.pBin k ts).len, fun k acc ts => (g.pBinLoop k acc ts).len,
    fun ts => (g.pContains ts).len, fun ts => (g.pContainsTail ts).len, fun ts => (g.pUnary ts).len,
    fun ts => (g.pIndex ts).len, fun acc ts => (g.pIndexLoop acc ts).len, fun ts => (g.pTerm ts).len,
    fun ts => (g.pVecItems ts).len, fun ts => (g.pMapItems ts).len⟩

end Reval
