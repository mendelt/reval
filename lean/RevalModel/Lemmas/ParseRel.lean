/-
  Lemmas/ParseRel.lean — fuel-free parsing relations ("for all sufficiently large fuel the function returns …")
  and their introduction rules, one per alternative of the grammar.
-/
import RevalModel.Spec.Grammar

namespace Reval.G
open Reval

def Ev (p : Nat → Prop) : Prop := ∃ f0, ∀ f, f0 ≤ f → p f

theorem Ev.and {p q : Nat → Prop} (hp : Ev p) (hq : Ev q) : Ev fun f => p f ∧ q f :=
  let ⟨a, ha⟩ := hp; let ⟨b, hb⟩ := hq
  ⟨a + b, fun f hf => ⟨ha f (by omega), hb f (by omega)⟩⟩

/-- one more unit of fuel: the shape of every rule below, since a function spends one unit before it calls another -/
theorem Ev.succ {p q : Nat → Prop} (hp : Ev p) (h : ∀ f, p f → q (f + 1)) : Ev q :=
  let ⟨a, ha⟩ := hp
  ⟨a + 1, fun
    | 0, hf => absurd hf (Nat.not_succ_le_zero a)
    | g + 1, hf => h g (ha g (Nat.le_of_succ_le_succ hf))⟩

theorem Ev.of_succ {q : Nat → Prop} (h : ∀ f, q (f + 1)) : Ev q :=
  Ev.succ (p := fun _ => True) ⟨0, fun _ _ => trivial⟩ fun f _ => h f

def Parses {α : Type} (p : Nat → List Tok → PR α) (ts : List Tok) (a : α) (r : List Tok) : Prop := Ev fun f => p f ts = .ok a r

def PIf (o : Oracle) := Parses (pIf o)
def PBin (o : Oracle) (k : Nat) := Parses (pBin o · k)
def LBin (o : Oracle) (k : Nat) (acc : Expr) := Parses (pBinLoop o · k acc)
def PCont (o : Oracle) := Parses (pContains o)
def PContTail (o : Oracle) := Parses (pContainsTail o)
def PUn (o : Oracle) := Parses (pUnary o)
def PIdx (o : Oracle) := Parses (pIndex o)
def LIdx (o : Oracle) (acc : Expr) := Parses (pIndexLoop o · acc)
def PTerm (o : Oracle) := Parses (pTerm o)
def PVec (o : Oracle) := Parses (pVecItems o)
def PMap (o : Oracle) := Parses (pMapItems o)

/- Where an alternative is chosen by the next token, the rule says so about `ts.head?`. -/

variable {o : Oracle} {ts T r r1 r2 r' : List Tok} {e l x acc : Expr} {k : Nat} {t : Tok} {s : Str}

/-- a first-token condition in the form by which `simp` takes the other arm of an `if s = x` -/
theorem ne_p {s x : Str} {r : List Tok} (h : (Tok.p s :: r).head? ≠ some (.p x)) : ¬ s = x := fun e => h (e ▸ rfl)
theorem ne_kw {s x : Str} {r : List Tok} (h : (Tok.kw s :: r).head? ≠ some (.kw x)) : ¬ s = x := fun e => h (e ▸ rfl)

theorem PIf_of_bin (hno : ts.head? ≠ some kwIf) (h : PBin o 1 ts e r) : PIf o ts e r :=
  Ev.succ h fun g h' => by
    simp only [pIf]
    split
    · simpa [ne_kw hno] using h'
    · exact h'

theorem PIf_ite {t1 t2 t3 : List Tok} {c t : Expr}
    (hc : PIf o t1 c (kwThen :: t2)) (ht : PIf o t2 t (kwElse :: t3)) (he : PIf o t3 e r) :
    PIf o (kwIf :: t1) (.ite c t e) r :=
  ((Ev.and hc ht).and he).succ fun g ⟨⟨hc', ht'⟩, he'⟩ => by
    -- `at *`, here and below: the hypotheses say `kwThen :: …`, the unfolded body `.kw [..]`; the names must open in both
    simp [pIf, kwIf, kwThen, kwElse, hc', ht', he'] at *

theorem PBin_step (hk : k < 6) (h1 : PBin o (k + 1) ts l r1) (h2 : LBin o k l r1 e r) : PBin o k ts e r :=
  (Ev.and h1 h2).succ fun g ⟨h1', h2'⟩ => by
    have : ¬ k ≥ 6 := by omega
    simp [pBin, this, h1', h2']

theorem PBin_six (hk : 6 ≤ k) (h : PCont o ts e r) : PBin o k ts e r :=
  Ev.succ h fun g h' => by
    simp [pBin, hk, h']

theorem LBin_stop (h : ∀ t, ts.head? = some t → binOpAt k t = none) : LBin o k acc ts acc ts :=
  Ev.of_succ fun g => by
    simp only [pBinLoop]
    split
    · rw [h _ rfl]
    · rfl

theorem LBin_step {mk : Expr → Expr → Expr} (hop : binOpAt k t = some mk) (h1 : PBin o (k + 1) r x r1)
    (h2 : LBin o k (mk acc x) r1 e r') : LBin o k acc (t :: r) e r' :=
  (Ev.and h1 h2).succ fun g ⟨h1', h2'⟩ => by
    simp [pBinLoop, hop, h1', h2']

/-- in front of a token that is an operator of no binary level each binary loop stops at once (`d` counts the levels
    down from 6) -/
theorem PBin_of_PCont (hstop : ∀ k t, r.head? = some t → binOpAt k t = none) (h : PCont o ts e r) :
    ∀ d k, k + d = 6 → PBin o k ts e r
  | 0, _, hk => PBin_six (by omega) h
  | d + 1, k, hk => PBin_step (by omega) (PBin_of_PCont hstop h d (k + 1) (by omega)) (LBin_stop (hstop k))

theorem PCont_unary (ht : t = minus ∨ t = bang) (h : PUn o (t :: r) e r') : PCont o (t :: r) e r' :=
  Ev.succ h fun g h' => by
    rcases ht with rfl | rfl <;> simp [pContains, minus, bang] <;> exact h'

/-- `pContains` and `pUnary` dispatch on these two -/
def NoUnary (ts : List Tok) : Prop := ts.head? ≠ some minus ∧ ts.head? ≠ some bang

theorem PCont_tail (hno : NoUnary ts) (h : PContTail o ts e r') : PCont o ts e r' :=
  Ev.succ h fun g h' => by
    simp only [pContains]
    split
    · simpa [ne_p hno.1, ne_p hno.2] using h'
    · exact h'

theorem PContTail_plain (hno : r.head? ≠ some kwContains ∧ r.head? ≠ some kwIn) (h : PIdx o ts l r) :
    PContTail o ts l r :=
  Ev.succ h fun g h' => by
    simp only [pContainsTail, h']
    split
    · simp [ne_kw hno.1, ne_kw hno.2]
    · rfl

theorem PContTail_contains (h1 : PIdx o ts l (kwContains :: r1)) (h2 : PIdx o r1 x r2) :
    PContTail o ts (.bin .contains l x) r2 :=
  (Ev.and h1 h2).succ fun g ⟨h1', h2'⟩ => by
    simp [pContainsTail, kwContains, h1', h2'] at *

theorem PContTail_in (h1 : PIdx o ts l (kwIn :: r1)) (h2 : PIdx o r1 x r2) : PContTail o ts (.bin .contains x l) r2 :=
  (Ev.and h1 h2).succ fun g ⟨h1', h2'⟩ => by
    simp [pContainsTail, kwIn, h1', h2'] at *

theorem PUn_neg (h : PUn o r e r') : PUn o (minus :: r) (.un .neg e) r' :=
  Ev.succ h fun g h' => by
    simp [pUnary, minus, h']

theorem PUn_not (h : PUn o r e r') : PUn o (bang :: r) (.un .not e) r' :=
  Ev.succ h fun g h' => by
    simp [pUnary, bang, h']

theorem PUn_index (hno : NoUnary ts) (h : PIdx o ts e r') : PUn o ts e r' :=
  Ev.succ h fun g h' => by
    simp only [pUnary]
    split
    · simpa [ne_p hno.1, ne_p hno.2] using h'
    · exact h'

theorem PIdx_intro (h1 : PTerm o ts l r1) (h2 : LIdx o l r1 e r) : PIdx o ts e r :=
  (Ev.and h1 h2).succ fun g ⟨h1', h2'⟩ => by
    simp [pIndex, h1', h2']

theorem LIdx_stop (h : ts.head? ≠ some dot) : LIdx o acc ts acc ts :=
  Ev.of_succ fun g => by
    simp only [pIndexLoop]
    split
    · simp [ne_p h]
    · rfl

theorem LIdx_key (h : LIdx o (.index acc (.key s)) r e r') : LIdx o acc (dot :: .ident s :: r) e r' :=
  Ev.succ h fun g h' => by
    simp [pIndexLoop, dot, h']

theorem LIdx_pos (hn : Str.ofDigits s ≤ u64Max) (h : LIdx o (.index acc (.pos (Str.ofDigits s))) r e r') :
    LIdx o acc (dot :: .index s :: r) e r' :=
  Ev.succ h fun g h' => by
    simp [pIndexLoop, dot, hn, h']

/-- no opening parenthesis follows (it would make a name a call, `none` a function) -/
def NoLP (r : List Tok) : Prop := r.head? ≠ some lp

theorem PTerm_lit {v : Value} {x : List Tok} (ht : IsLitTok t) (h : Lit.ofTok o t = .ok v x) : PTerm o (t :: r) (.lit v) r :=
  Ev.of_succ fun g => by
    cases t <;> simp [IsLitTok] at ht <;> simp [pTerm, h]

/- `true(` and `false(` are the literal followed by a parenthesis — the two words are no function keywords — so
   `PTerm_true` / `PTerm_false` ask nothing of what follows, while `none` is one (`none(e)`): `PTerm_none` needs `NoLP` -/
theorem funcOfKw_true : funcOfKw ['t', 'r', 'u', 'e'] = none := by decide
theorem funcOfKw_false : funcOfKw ['f', 'a', 'l', 's', 'e'] = none := by decide

theorem PTerm_true : PTerm o (.kw ['t', 'r', 'u', 'e'] :: r) (.lit (.bool true)) r :=
  Ev.of_succ fun g => by
    simp only [pTerm, funcOfKw_true]
    split <;> simp

theorem PTerm_false : PTerm o (.kw ['f', 'a', 'l', 's', 'e'] :: r) (.lit (.bool false)) r :=
  Ev.of_succ fun g => by
    simp only [pTerm, funcOfKw_false]
    split <;> simp

theorem PTerm_none (h : NoLP r) : PTerm o (.kw ['n', 'o', 'n', 'e'] :: r) (.lit .none) r :=
  Ev.of_succ fun g => by
    simp only [pTerm]
    split
    · exact absurd rfl h
    · simp

theorem PTerm_ref (h : NoLP r) : PTerm o (.ident s :: r) (.ref s) r :=
  Ev.of_succ fun g => by
    simp only [pTerm]
    split
    · exact absurd rfl h
    · rfl

theorem PTerm_call (h : PIf o T e (rp :: r)) : PTerm o (.ident s :: lp :: T) (.call s e) r :=
  Ev.succ h fun g h' => by
    simp [pTerm, lp, rp, h'] at *

theorem PTerm_func {op : UnOp} (hk : funcOfKw s = some op) (h : PIf o T e (rp :: r)) :
    PTerm o (.kw s :: lp :: T) (.un op e) r :=
  Ev.succ h fun g h' => by
    simp [pTerm, lp, rp, hk, h'] at *

theorem PTerm_sym : PTerm o (colon :: .ident s :: r) (.sym s) r :=
  Ev.of_succ fun g => by
    simp [pTerm, colon]

theorem PTerm_paren (h : PIf o T e (rp :: r)) : PTerm o (lp :: T) e r :=
  Ev.succ h fun g h' => by
    simp [pTerm, lp, rp, h'] at *

theorem PTerm_vec {xs : List Expr} (h : PVec o T xs r) : PTerm o (.p ['['] :: T) (.vec xs) r :=
  Ev.succ h fun g h' => by
    simp [pTerm, h']

theorem PTerm_map {kvs : List (Str × Expr)} (h : PMap o T kvs r) : PTerm o (.p ['{'] :: T) (.map (collectMap kvs)) r :=
  Ev.succ h fun g h' => by
    simp [pTerm, collectMap, h']

theorem PVec_nil : PVec o (.p [']'] :: r) [] r :=
  Ev.of_succ fun g => by
    simp [pVecItems]

theorem PVec_last (hne : T.head? ≠ some (.p [']'])) (h : PIf o T e (.p [']'] :: r)) : PVec o T [e] r :=
  Ev.succ h fun g h' => by
    -- the second goal, here and in `PVec_cons`: the side condition of the equation for the catch-all arm of the
    -- overlapping `match` (the input is not `] :: _`)
    rw [pVecItems]
    · simp [h']
    · rintro r' rfl; exact hne rfl

theorem PVec_cons {es : List Expr} (hne : T.head? ≠ some (.p [']'])) (h : PIf o T e (comma :: r1)) (h2 : PVec o r1 es r) :
    PVec o T (e :: es) r :=
  (Ev.and h h2).succ fun g ⟨h', h2'⟩ => by
    rw [pVecItems]
    · simp [comma, h', h2'] at *
    · rintro r' rfl; exact hne rfl

theorem PMap_nil : PMap o (.p ['}'] :: r) [] r :=
  Ev.of_succ fun g => by
    simp [pMapItems]

theorem PMap_last (h : PIf o T e (.p ['}'] :: r)) : PMap o (.ident s :: colon :: T) [(s, e)] r :=
  Ev.succ h fun g h' => by
    simp [pMapItems, colon, h'] at *

theorem PMap_cons {es : List (Str × Expr)} (h : PIf o T e (comma :: r1)) (h2 : PMap o r1 es r) :
    PMap o (.ident s :: colon :: T) ((s, e) :: es) r :=
  (Ev.and h h2).succ fun g ⟨h', h2'⟩ => by
    simp [pMapItems, colon, comma, h', h2'] at *

end Reval.G
