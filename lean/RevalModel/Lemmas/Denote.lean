/-
  Lemmas/Denote.lean — `eval` computes `denote` (C04, C09, C11, C12): for deterministic user functions and a cache whose
  entries are results of those functions, the value of an evaluation is the state-free denotation, whatever the cache
  contains and however many calls preceded.
  The bridge `pure_prog` (`denote` is the reading `pure` of `prog`) is here and not beside `run_prog`: `denote` is written
  with `tableUn` / `tableBin`, so it needs Lemmas/Table.lean.
  Last part (C11): `denote` does not look at the `cacheable` declarations, so neither do the outcomes.
-/
import RevalModel.Lemmas.Prog
import RevalModel.Lemmas.Table
import RevalModel.Lemmas.Sorted

namespace Reval

/-- every cache entry is what its function returns for that argument -/
def Consistent (env : Env) (st : St) : Prop :=
  ∀ f a v, cacheGet st.cache (f, a) = some v → ∃ fm, lookup env.fns f = some fm ∧ fm.behave 0 a = .ok v

theorem consistent_init (env : Env) : Consistent env St.init := by
  intro f a v h; simp [St.init, cacheGet] at h

theorem callFn_denote (env : Env) (hd : Deterministic env) (f : Str) (a : Value) (st : St) (hc : Consistent env st) :
    (callFn env f a st).1 = callPure env f a ∧ Consistent env (callFn env f a st).2.1 := by
  unfold callPure
  apply callFn_cases (Q := fun o => o.1 = _ ∧ Consistent env o.2.1)
  case unknown => intro h; exact ⟨by rw [h], hc⟩
  case hit =>
    intro fm v h _ hv
    obtain ⟨fm', h', hb⟩ := hc f a v hv
    exact ⟨by simp only [h', hb], hc⟩
  -- an invocation answers as the first one would
  case stored =>
    intro fm v h _ _ hb
    rw [hd f fm h] at hb
    exact ⟨by simp only [h, hb], fun f' a' => cacheGet_cons (P := fun k v => ∃ fm, lookup env.fns k.1 = some fm ∧
      fm.behave 0 k.2 = .ok v) ⟨fm, h, hb⟩ (fun k => hc k.1 k.2) (f', a')⟩
  case invoked | failed => intro fm _ h _ hb; rw [hd f fm h] at hb; exact ⟨by simp only [h, hb], hc⟩

theorem pure_prog (env : Env) :
    (∀ rp e, (prog env rp e).pure env = denote env e) ∧
    (∀ rp i kvs, (progMap env rp i kvs).pure env = denoteMap env kvs) ∧
    (∀ rp i es, (progList env rp i es).pure env = denoteList env es) := by
  refine prog.mutual_induct _ _ _ ?lit ?ref ?sym ?index ?call ?ite ?and ?or ?eq ?neq ?un ?bin ?vec ?map ?nilL ?consL
    ?nilM ?consM
  all_goals
    intros
    simp only [prog, progList, progMap, Prog.pure, Res.bind, denote, denoteList, denoteMap, applyUn_eq_table,
      applyBin_eq_table, *]
  -- both sides branch on the same denotations and values: one step for each match on the way
  case index | un | call | vec | map => split <;> simp only [*]
  case bin | consL | consM | ite =>
    split <;> simp only [*]
    split <;> simp only [Prog.pure, *]
  case eq | neq =>
    split <;> simp only [*]
    split <;> simp only [Prog.pure, Res.bind, *]
    split <;> simp only [*]
  case and | or =>
    split <;> simp only [*]
    split <;> simp only [Prog.pure, Res.bind, *]
    split <;> simp only [*]
    split <;> simp only [Prog.pure]

theorem Prog.run_pure (env : Env) (hd : Deterministic env) {α : Type} (p : Prog α) (st : St) (hc : Consistent env st) :
    (p.run env st).1 = p.pure env ∧ Consistent env (p.run env st).2.1 := by
  induction p generalizing st with
  | ret r => exact ⟨rfl, hc⟩
  | seq m f ihm ihf =>
    have h := ihm st hc
    refine Prog.run_seq_cases (Q := fun o => o.1 = _ ∧ Consistent env o.2.1) (fun a ha => ?_) fun r _ _ hr => ⟨?_, h.2⟩
    · rw [Prog.pure, ← h.1, ha]; exact ihf _ _ h.2
    · rw [Prog.pure, ← h.1, hr]
  | call rp f v => exact callFn_denote env hd f v st hc

theorem eval_denote (env : Env) (hd : Deterministic env) (rp : List Nat) (e : Expr) (st : St)
    (hc : Consistent env st) : (eval env rp e st).1 = denote env e ∧ Consistent env (eval env rp e st).2.1 :=
  eval_eq_run env rp e ▸ (pure_prog env).1 rp e ▸ Prog.run_pure env hd _ st hc

theorem evalRules_denote (env : Env) (hd : Deterministic env) : ∀ (rules : List Expr) (i : Nat) (st : St),
    Consistent env st → (evalRules env i rules st).1 = rules.map (denote env)
  | [], _, _, _ => rfl
  | e :: es, i, st, hc => by
    have h := eval_denote env hd [i] e st hc
    simp only [evalRules, List.map_cons, evalRules_denote env hd es (i + 1) _ h.2, h.1]


/-- the same functions, each declared cacheable or not as `c` says of its name (`UserFunction::cacheable`) -/
def Env.withCacheable (env : Env) (c : Str → Bool) : Env :=
  { env with fns := env.fns.map (fun p => (p.1, { p.2 with cacheable := c p.1 })) }

theorem callPure_withCacheable (env : Env) (c : Str → Bool) (f : Str) (a : Value) :
    callPure (env.withCacheable c) f a = callPure env f a := by
  unfold callPure Env.withCacheable
  simp only [lookup_map_snd (fun n (fm : FnModel) => ({ fm with cacheable := c n } : FnModel))]
  cases lookup env.fns f <;> rfl

theorem deterministic_withCacheable (env : Env) (c : Str → Bool) (hd : Deterministic env) :
    Deterministic (env.withCacheable c) := by
  intro f fm h i a
  simp only [Env.withCacheable, lookup_map_snd fun n (fm : FnModel) => { fm with cacheable := c n },
    Option.map_eq_some_iff] at h
  obtain ⟨fm0, hl, rfl⟩ := h
  exact hd f fm0 hl i a

/-- `prog` looks at the environment through the input, the symbols and the oracle only -/
theorem prog_withCacheable (env : Env) (c : Str → Bool) :
    (∀ rp e, prog (env.withCacheable c) rp e = prog env rp e) ∧
    (∀ rp i kvs, progMap (env.withCacheable c) rp i kvs = progMap env rp i kvs) ∧
    (∀ rp i es, progList (env.withCacheable c) rp i es = progList env rp i es) := by
  apply prog.mutual_induct
  all_goals
    intros
    simp only [prog, progList, progMap, *]
  all_goals rfl

theorem Prog.pure_withCacheable (env : Env) (c : Str → Bool) {α : Type} (p : Prog α) :
    p.pure (env.withCacheable c) = p.pure env := by
  induction p with
  | ret r => rfl
  | seq m f ihm ihf => simp only [Prog.pure, ihm, ihf]
  | call rp f v => exact callPure_withCacheable env c f v

theorem denote_withCacheable_all (env : Env) (c : Str → Bool) :
    (∀ e, denote (env.withCacheable c) e = denote env e) ∧
    (∀ kvs, denoteMap (env.withCacheable c) kvs = denoteMap env kvs) ∧
    (∀ es, denoteList (env.withCacheable c) es = denoteList env es) := by
  -- the same program (`prog_withCacheable`), read by `pure`, which meets the functions at `callPure` only
  have hp := pure_prog env; have hp' := pure_prog (env.withCacheable c); have hq := prog_withCacheable env c
  exact ⟨fun e => by rw [← hp'.1 [], hq.1, Prog.pure_withCacheable, hp.1],
    fun kvs => by rw [← hp'.2.1 [] 0, hq.2.1, Prog.pure_withCacheable, hp.2.1],
    fun es => by rw [← hp'.2.2 [] 0, hq.2.2, Prog.pure_withCacheable, hp.2.2]⟩

theorem eval_withCacheable (env : Env) (hd : Deterministic env) (c : Str → Bool) (rp : List Nat) (e : Expr) (st st' : St)
    (hc : Consistent (env.withCacheable c) st) (hc' : Consistent env st') :
    (eval (env.withCacheable c) rp e st).1 = (eval env rp e st').1 := by
  rw [(eval_denote _ (deterministic_withCacheable env c hd) rp e st hc).1, (eval_denote env hd rp e st' hc').1]
  exact (denote_withCacheable_all env c).1 e

theorem evalRules_withCacheable (env : Env) (hd : Deterministic env) (c : Str → Bool) (rules : List Expr) (i j : Nat)
    (st st' : St) (hc : Consistent (env.withCacheable c) st) (hc' : Consistent env st') :
    (evalRules (env.withCacheable c) i rules st).1 = (evalRules env j rules st').1 := by
  rw [evalRules_denote _ (deterministic_withCacheable env c hd) rules i st hc, evalRules_denote env hd rules j st' hc']
  exact List.map_congr_left fun e _ => (denote_withCacheable_all env c).1 e

end Reval
