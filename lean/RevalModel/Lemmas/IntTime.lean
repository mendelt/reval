/-
  Lemmas/IntTime.lean — what the integer and time primitives compute: T-division and its remainder, the unit counts of a
  span, the time of day of an instant, `& | ^` bit by bit on the 128-bit two's-complement patterns.  Used by Props/C02
  (and `tmod_sign`, `toU_lt` by the range lemmas).
-/
import RevalModel.Prim.DecTime

namespace Reval

theorem tmod_sign (a b : Int) : 0 ≤ a ∧ 0 ≤ Int.tmod a b ∨ a ≤ 0 ∧ Int.tmod a b ≤ 0 := by
  by_cases h : 0 ≤ a
  · exact .inl ⟨h, Int.tmod_nonneg b h⟩
  · have := Int.tmod_nonneg (a := -a) b (by omega)
    rw [Int.neg_tmod] at this; exact .inr ⟨by omega, by omega⟩

theorem tdiv_tdiv_pos (a b c : Int) (hb : 0 < b) : Int.tdiv (Int.tdiv a b) c = Int.tdiv a (b * c) := by
  have nonneg : ∀ a : Int, 0 ≤ a → Int.tdiv (Int.tdiv a b) c = Int.tdiv a (b * c) := fun a ha => by
    have h1 : 0 ≤ Int.tdiv a b := by rw [Int.tdiv_eq_ediv_of_nonneg ha]; exact Int.ediv_nonneg ha (Int.le_of_lt hb)
    rw [Int.tdiv_eq_ediv_of_nonneg h1, Int.tdiv_eq_ediv_of_nonneg ha, Int.tdiv_eq_ediv_of_nonneg ha,
      Int.ediv_ediv_of_nonneg (Int.le_of_lt hb)]
  by_cases ha : 0 ≤ a
  · exact nonneg a ha
  · obtain ⟨m, hm, rfl⟩ : ∃ m : Int, 0 ≤ m ∧ a = -m := ⟨-a, by omega, by omega⟩
    rw [Int.neg_tdiv, Int.neg_tdiv, Int.neg_tdiv, nonneg m hm]

namespace Time

theorem numUnits_mul (u i : Int) (hu : u ≠ 0) : numUnits u (i * u * nsPerSec) = i := by
  unfold numUnits numSeconds; rw [Int.mul_tdiv_cancel _ (by decide), Int.mul_tdiv_cancel _ hu]

theorem numUnits_eq (u ns : Int) : numUnits u ns = Int.tdiv ns (nsPerSec * u) :=
  tdiv_tdiv_pos ns nsPerSec u (by decide)

theorem timeOfDay_parts (days h mi s ns : Int) (hh : 0 ≤ h ∧ h ≤ 23) (hmi : 0 ≤ mi ∧ mi ≤ 59)
    (hs : 0 ≤ s ∧ s ≤ 59) (hns : 0 ≤ ns ∧ ns ≤ 999999999) :
    let t := (days * 86400 + h * 3600 + mi * 60 + s) * nsPerSec + ns
    secsOf t / 86400 = days ∧ hour t = h ∧ minute t = mi ∧ second t = s := by
  intro t
  have hsec : ∀ S, secsOf (S * nsPerSec + ns) = S := fun S => by unfold secsOf nsPerSec; omega
  replace hsec : secsOf t = days * 86400 + h * 3600 + mi * 60 + s := hsec _
  unfold hour minute second
  rw [hsec]; clear hsec hns
  exact ⟨by omega, by omega, by omega, by omega⟩

/-- conversely every instant has a time of day, and lies in that second of its day -/
theorem timeOfDay_total (t : Int) :
    (0 ≤ hour t ∧ hour t ≤ 23) ∧ (0 ≤ minute t ∧ minute t ≤ 59) ∧ (0 ≤ second t ∧ second t ≤ 59) ∧
    secsOf t = secsOf t / 86400 * 86400 + hour t * 3600 + minute t * 60 + second t := by
  unfold hour minute second
  exact ⟨by omega, by omega, by omega, by omega⟩

end Time

namespace I128

theorem toU_lt (n : Int) : toU n < 2 ^ 128 := by
  unfold toU; omega

theorem toU_ofU {u : Nat} (h : u < 2 ^ 128) : toU (ofU u) = u := by
  unfold toU ofU; split <;> omega

theorem ofU_toU {n : Int} (h : inRange n = true) : ofU (toU n) = n := by
  unfold inRange I128.min I128.max at h; simp only [Bool.and_eq_true, decide_eq_true_eq] at h
  unfold toU ofU; split <;> omega

/-- bit `i` of the two's-complement pattern of `n` (the statement of `C02.bitwise_bit_by_bit` is written with it) -/
def bit (n : Int) (i : Nat) : Bool := (toU n).testBit i

theorem bit_ofU {u : Nat} (h : u < 2 ^ 128) (i : Nat) : bit (ofU u) i = u.testBit i := by
  unfold bit; rw [toU_ofU h]

theorem land_bit (a b : Int) (i : Nat) : bit (land a b) i = (bit a i && bit b i) :=
  (bit_ofU (Nat.and_lt_two_pow _ (toU_lt b)) i).trans (Nat.testBit_and _ _ _)
theorem lor_bit (a b : Int) (i : Nat) : bit (lor a b) i = (bit a i || bit b i) :=
  (bit_ofU (Nat.or_lt_two_pow (toU_lt a) (toU_lt b)) i).trans (Nat.testBit_or _ _ _)
theorem xor_bit (a b : Int) (i : Nat) : bit (xor a b) i = (bit a i != bit b i) :=
  (bit_ofU (Nat.xor_lt_two_pow (toU_lt a) (toU_lt b)) i).trans (Nat.testBit_xor _ _ _)

end I128

end Reval
