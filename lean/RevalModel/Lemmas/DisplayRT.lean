/-
  Lemmas/DisplayRT.lean — the tokens `Display` prints for a tree are a rendering of that tree under the precedence
  table (`G.R`), hence parse back to it (Lemmas/RoundTrip).
-/
import RevalModel.Spec.Printer
import RevalModel.Lemmas.GrammarTable
import RevalModel.Lemmas.Literals


namespace Reval.G
open Reval Reval.Disp

mutual
/-- trees whose leaves the printer can express: literal leaves convert back (`LitOK`), numeric indices fit `u64`,
    map literals are in the form the parser builds (sorted, distinct keys) -/
def Printable (o : Oracle) (sf : F64 → Str) : Expr → Prop
  | .lit v => LitOK o sf v
  | .ref _ => True
  | .sym _ => True
  | .call _ a => Printable o sf a
  | .index e (.key _) => Printable o sf e
  | .index e (.pos n) => Printable o sf e ∧ n ≤ u64Max
  | .ite c t e => Printable o sf c ∧ Printable o sf t ∧ Printable o sf e
  | .and l r => Printable o sf l ∧ Printable o sf r
  | .or l r => Printable o sf l ∧ Printable o sf r
  | .eq l r => Printable o sf l ∧ Printable o sf r
  | .neq l r => Printable o sf l ∧ Printable o sf r
  | .un _ e => Printable o sf e
  | .bin _ l r => Printable o sf l ∧ Printable o sf r
  | .vec xs => PrintableL o sf xs
  | .map kvs => PrintableM o sf kvs ∧ collectMap kvs = kvs
def PrintableL (o : Oracle) (sf : F64 → Str) : List Expr → Prop
  | [] => True
  | e :: es => Printable o sf e ∧ PrintableL o sf es
def PrintableM (o : Oracle) (sf : F64 → Str) : List (Str × Expr) → Prop
  | [] => True
  | (_, e) :: kvs => Printable o sf e ∧ PrintableM o sf kvs
end

/-- the level at which the printed form of a node stands: bitwise nodes are printed bare, `-(…)` / `!(…)` are unary
    phrases, everything else is an atom or parenthesised -/
def dlvl : Expr → Nat
  | .bin op _ _ => if isBitwise op then 5 else 9
  | .un .neg _ => 7
  | .un .not _ => 7
  | _ => 9

theorem dlvl_ge5 (e : Expr) : 5 ≤ dlvl e := by
  unfold dlvl; split <;> first | omega | (split <;> omega)

theorem dlvl_noParens {e : Expr} (h : needsParens e = false) : dlvl e = 9 := by
  unfold needsParens at h
  unfold dlvl
  split at h <;> simp_all

section
variable {o : Oracle} {sf : F64 → Str}

theorem body_lit (v : Value) (h : LitOK o sf v) : Body o (.lit v) [litTok sf v] := by
  cases v
  case bool b => cases b <;> simp only [litTok]; exact Body.litFalse; exact Body.litTrue
  case none => exact Body.litNone
  case int n => exact Body.litTok _ _ [] trivial h
  case str s => exact Body.litTok _ _ [] trivial h
  case float f => exact Body.litTok _ _ [] trivial h
  case dec d => exact Body.litTok _ _ [] trivial h
  all_goals exact absurd h (by simp [LitOK])

theorem R.wrap {e : Expr} {T : List Tok} (k : Nat) (h : R o 0 e T) : R o k e (wrap T) := R.paren k e T h

theorem R_operand {e : Expr} (k : Nat) (hk : k ≤ 9) (ih : ∀ j, j ≤ dlvl e → R o j e (dispToks sf e)) :
    R o k e (if needsParens e then wrap (dispToks sf e) else dispToks sf e) := by
  cases hp : needsParens e
  · simp only [Bool.false_eq_true, if_false]
    exact ih k (by rw [dlvl_noParens hp]; exact hk)
  · simp only [if_true]
    exact R.wrap k (ih 0 (Nat.zero_le _))

theorem binTok_binOpAt (op : BinOp) (hc : op ≠ .contains) :
    binOpAt (binLvl op) (binTok op) = some (Expr.bin op) ∧ if isBitwise op then binLvl op = 5 else binLvl op ≤ 4 := by
  cases op <;> first | exact absurd rfl hc | exact ⟨rfl, by decide⟩

theorem unTok_funcOfKw (op : UnOp) (h1 : op ≠ .neg) (h2 : op ≠ .not) :
    unTok op = .kw (unKw op) ∧ funcOfKw (unKw op) = some op ∧ ∀ e, dlvl (.un op e) = 9 := by
  cases op <;> first | exact absurd rfl h1 | exact absurd rfl h2 | exact ⟨rfl, by decide, fun _ => rfl⟩

theorem disp_bin {k m : Nat} {t : Tok} {mk : Expr → Expr → Expr} {l r : Expr} (h4 : k ≤ 4)
    (hop : binOpAt k t = some mk) (ihl : ∀ j, j ≤ dlvl l → R o j l (dispToks sf l))
    (ihr : ∀ j, j ≤ dlvl r → R o j r (dispToks sf r)) :
    R o m (mk l r) (wrap (dispToks sf l ++ t :: dispToks sf r)) :=
  R.wrap m (R.bin hop (Nat.zero_le _) (ihl k (by have := dlvl_ge5 l; omega))
    (ihr (k + 1) (by have := dlvl_ge5 r; omega)))

theorem disp_sound :
    (∀ e, Printable o sf e → ∀ k, k ≤ dlvl e → R o k e (dispToks sf e)) ∧
    (∀ kvs, PrintableM o sf kvs → RMap o kvs (dispEntries sf kvs)) ∧
    (∀ xs, PrintableL o sf xs → RList o xs (dispList sf xs)) := by
  -- `dispToks.mutual_induct` takes its motives in the order expressions, map entries, lists (the conjuncts above) and its
  -- cases in the order of the definitions: expressions, lists, map entries
  apply dispToks.mutual_induct
  · intro v hp k hk; exact R.bare k _ _ hk (body_lit v hp)
  · intro n _ k hk; exact R.bare k _ _ hk (Body.ref n)
  · intro n _ k hk; exact R.bare k _ _ hk (Body.sym n)
  · intro f a ih hp k hk; exact R.bare k _ _ hk (Body.call f a _ (ih hp 0 (Nat.zero_le _)))
  · intro e i ih hp k _
    cases i with
    | key key => exact R.wrap k (R.bare 0 _ _ (Nat.zero_le _) (Body.indexKey e _ key (R_operand 8 (by omega) (ih hp))))
    | pos n =>
      have hd := (showNat_spec n).1
      have := Body.indexPos (o := o) e _ (Disp.showNat n) (R_operand 8 (by omega) (ih hp.1)) (by rw [hd]; exact hp.2)
      rw [hd] at this
      exact R.wrap k (R.bare 0 _ _ (Nat.zero_le _) this)
  · intro c t e ihc iht ihe hp k _
    exact R.wrap k (R.bare 0 _ _ (Nat.zero_le _) (Body.ite c t e _ _ _ (ihc hp.1 0 (Nat.zero_le _))
      (iht hp.2.1 0 (Nat.zero_le _)) (ihe hp.2.2 0 (Nat.zero_le _))))
  · intro l r ihl ihr hp k _; exact disp_bin (k := 1) (by omega) rfl (ihl hp.1) (ihr hp.2)
  · intro l r ihl ihr hp k _; exact disp_bin (k := 1) (by omega) rfl (ihl hp.1) (ihr hp.2)
  · intro l r ihl ihr hp k _; exact disp_bin (k := 2) (mk := mkEq .eq) (by omega) rfl (ihl hp.1) (ihr hp.2)
  · intro l r ihl ihr hp k _; exact disp_bin (k := 2) (mk := mkEq .neq) (by omega) rfl (ihl hp.1) (ihr hp.2)
  · intro op e ih hp k hk
    have h0 := ih hp 0 (Nat.zero_le _)
    by_cases h1 : op = .neg
    · subst h1; exact R.bare k _ _ hk (Body.neg e _ (R.paren 7 e _ h0))
    · by_cases h2 : op = .not
      · subst h2; exact R.bare k _ _ hk (Body.not e _ (R.paren 7 e _ h0))
      · obtain ⟨ht, hf, hd⟩ := unTok_funcOfKw op h1 h2
        have hd := hd e
        change R o k _ (unTok op :: _)
        rw [ht]
        exact R.bare k _ _ (by rw [lvl_func hf]; omega) (Body.func (unKw op) op e _ hf h0)
  · -- bitwise: printed bare
    intro op l r hb ihl ihr hp k hk
    have hc : op ≠ .contains := by intro h; subst h; simp [isBitwise] at hb
    obtain ⟨hop, hl5⟩ := binTok_binOpAt op hc
    rw [if_pos hb] at hl5
    have hk5 : k ≤ 5 := by simpa [dlvl, hb] using hk
    simp only [dispToks, hb, if_true]
    exact R.bin (k := 5) (hl5 ▸ hop) hk5 (ihl hp.1 5 (dlvl_ge5 l))
      (R_operand 6 (by omega) (ihr hp.2))
  · intro l r _ ihl ihr hp k _
    simp only [dispToks, isBitwise, Bool.false_eq_true, if_false, if_true]
    exact R.wrap k (R.bare 0 _ _ (Nat.zero_le _) (Body.contains l r _ _ (R_operand 8 (by omega) (ihl hp.1)) (R_operand 8 (by omega) (ihr hp.2))))
  · -- comparison / arithmetic: parenthesised
    intro op l r hb hc ihl ihr hp k _
    obtain ⟨hop, h4⟩ := binTok_binOpAt op hc
    rw [if_neg hb] at h4
    simp only [dispToks, hb, hc, if_false]
    exact disp_bin h4 hop (ihl hp.1) (ihr hp.2)
  · intro xs ih hp k hk; exact R.bare k _ _ hk (Body.vec xs _ (ih hp))
  · intro kvs ih hp k hk
    have := Body.map kvs _ (ih hp.1)
    rw [hp.2] at this
    exact R.bare k _ _ hk this
  · intro _; exact RList.nil
  · intro e ih hp; exact RList.last e _ (ih hp.1 0 (Nat.zero_le _))
  · intro e e2 es ih ihs hp; exact RList.cons e _ _ _ (ih hp.1 0 (Nat.zero_le _)) (ihs hp.2)
  · intro _; exact RMap.nil
  · intro k e ih hp; exact RMap.last k e _ (ih hp.1 0 (Nat.zero_le _))
  · intro k e kv2 kvs ih ihs hp; exact RMap.cons k e _ _ _ (ih hp.1 0 (Nat.zero_le _)) (ihs hp.2)

end
end Reval.G
