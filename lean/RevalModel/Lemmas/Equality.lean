/-
  Lemmas/Equality.lean — what `==` (the derived `PartialEq` of `Value`) is: reflexive and symmetric on values without a Float
  inside, and plain identity on values with neither Float nor Decimal inside.
-/
import RevalModel.Impl.Eval
import RevalModel.Lemmas.DecExact

namespace Reval

mutual
/-- no Float anywhere inside (IEEE equality is the one place where `==` is not reflexive) -/
def Value.noFloat : Value → Bool
  | .float _ => false
  | .vec xs => Value.noFloatList xs
  | .map kvs => Value.noFloatFields kvs
  | _ => true
def Value.noFloatList : List Value → Bool
  | [] => true
  | v :: vs => Value.noFloat v && Value.noFloatList vs
def Value.noFloatFields : List (Str × Value) → Bool
  | [] => true
  | (_, v) :: kvs => Value.noFloat v && Value.noFloatFields kvs
end

mutual
/-- neither Float nor Decimal anywhere inside: the types whose `==` is representation identity -/
def Value.exact : Value → Bool
  | .float _ => false
  | .dec _ => false
  | .vec xs => Value.exactList xs
  | .map kvs => Value.exactFields kvs
  | _ => true
def Value.exactList : List Value → Bool
  | [] => true
  | v :: vs => Value.exact v && Value.exactList vs
def Value.exactFields : List (Str × Value) → Bool
  | [] => true
  | (_, v) :: kvs => Value.exact v && Value.exactFields kvs
end

mutual
theorem peq_refl (a : Value) (h : a.noFloat = true) : Value.peq a a = true := by
  cases a with
  | float f => simp [Value.noFloat] at h
  | dec d => simp [Value.peq, Dec.eqNum_refl]
  | vec xs => simp only [Value.peq]; exact peqList_refl xs (by simpa [Value.noFloat] using h)
  | map kvs => simp only [Value.peq]; exact peqFields_refl kvs (by simpa [Value.noFloat] using h)
  | _ => simp [Value.peq]
theorem peqList_refl (xs : List Value) (h : Value.noFloatList xs = true) : Value.peqList xs xs = true := by
  cases xs with
  | nil => simp [Value.peqList]
  | cons v vs =>
    simp only [Value.noFloatList, Bool.and_eq_true] at h
    simp [Value.peqList, peq_refl v h.1, peqList_refl vs h.2]
theorem peqFields_refl (kvs : List (Str × Value)) (h : Value.noFloatFields kvs = true) : Value.peqFields kvs kvs = true := by
  cases kvs with
  | nil => simp [Value.peqFields]
  | cons kv rest =>
    obtain ⟨k, v⟩ := kv
    simp only [Value.noFloatFields, Bool.and_eq_true] at h
    simp [Value.peqFields, peq_refl v h.1, peqFields_refl rest h.2]
end

mutual
theorem peq_symm (a b : Value) (ha : a.noFloat = true) : Value.peq a b = Value.peq b a := by
  cases a with
  | float f => simp [Value.noFloat] at ha
  | str x | int x | bool x | dateTime x | duration x => cases b <;> simp only [Value.peq]; exact BEq.comm
  | dec x => cases b <;> simp only [Value.peq]; exact Dec.eqNum_symm _ _
  | none => cases b <;> simp only [Value.peq]
  | vec xs => cases b <;> simp only [Value.peq]; exact peqList_symm xs _ (by simpa [Value.noFloat] using ha)
  | map kvs => cases b <;> simp only [Value.peq]; exact peqFields_symm kvs _ (by simpa [Value.noFloat] using ha)
theorem peqList_symm (xs ys : List Value) (h : Value.noFloatList xs = true) : Value.peqList xs ys = Value.peqList ys xs := by
  cases xs with
  | nil => cases ys <;> simp [Value.peqList]
  | cons v vs =>
    cases ys with
    | nil => simp [Value.peqList]
    | cons w ws =>
      simp only [Value.noFloatList, Bool.and_eq_true] at h
      simp only [Value.peqList, peq_symm v w h.1, peqList_symm vs ws h.2]
theorem peqFields_symm (xs ys : List (Str × Value)) (h : Value.noFloatFields xs = true) : Value.peqFields xs ys = Value.peqFields ys xs := by
  cases xs with
  | nil => cases ys with
    | nil => rfl
    | cons kw _ => obtain ⟨k, w⟩ := kw; simp [Value.peqFields]
  | cons kv vs =>
    obtain ⟨k, v⟩ := kv
    cases ys with
    | nil => simp [Value.peqFields]
    | cons lw ws =>
      obtain ⟨l, w⟩ := lw
      simp only [Value.noFloatFields, Bool.and_eq_true] at h
      simp only [Value.peqFields, peq_symm v w h.1, peqFields_symm vs ws h.2]
      rw [show (k == l) = (l == k) from BEq.comm]
end

mutual
theorem peq_iff_eq (a b : Value) (ha : a.exact = true) (hb : b.exact = true) : Value.peq a b = true ↔ a = b := by
  cases a with
  | float f => simp [Value.exact] at ha
  | dec d => simp [Value.exact] at ha
  | str x | int x | bool x | dateTime x | duration x | none => cases b <;> simp [Value.peq]
  | vec xs =>
    cases b with
    | vec ys =>
      simp only [Value.peq, Value.vec.injEq]
      exact peqList_iff_eq xs ys (by simpa [Value.exact] using ha) (by simpa [Value.exact] using hb)
    | _ => simp [Value.peq]
  | map kvs =>
    cases b with
    | map lws =>
      simp only [Value.peq, Value.map.injEq]
      exact peqFields_iff_eq kvs lws (by simpa [Value.exact] using ha) (by simpa [Value.exact] using hb)
    | _ => simp [Value.peq]
theorem peqList_iff_eq (xs ys : List Value) (hx : Value.exactList xs = true) (hy : Value.exactList ys = true) :
    Value.peqList xs ys = true ↔ xs = ys := by
  cases xs with
  | nil => cases ys <;> simp [Value.peqList]
  | cons v vs =>
    cases ys with
    | nil => simp [Value.peqList]
    | cons w ws =>
      simp only [Value.exactList, Bool.and_eq_true] at hx hy
      simp only [Value.peqList, Bool.and_eq_true, List.cons.injEq, peq_iff_eq v w hx.1 hy.1, peqList_iff_eq vs ws hx.2 hy.2]
theorem peqFields_iff_eq (xs ys : List (Str × Value)) (hx : Value.exactFields xs = true) (hy : Value.exactFields ys = true) :
    Value.peqFields xs ys = true ↔ xs = ys := by
  cases xs with
  | nil => cases ys with
    | nil => simp [Value.peqFields]
    | cons kw _ => obtain ⟨k, w⟩ := kw; simp [Value.peqFields]
  | cons kv vs =>
    obtain ⟨k, v⟩ := kv
    cases ys with
    | nil => simp [Value.peqFields]
    | cons lw ws =>
      obtain ⟨l, w⟩ := lw
      simp only [Value.exactFields, Bool.and_eq_true] at hx hy
      simp only [Value.peqFields, Bool.and_eq_true, List.cons.injEq, Prod.mk.injEq, beq_iff_eq, peq_iff_eq v w hx.1 hy.1,
        peqFields_iff_eq vs ws hx.2 hy.2, and_assoc]
end

end Reval
