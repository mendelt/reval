/-
  Lemmas/Adequacy.lean — the resumption semantics is the big-step semantics: running `evalK e k` to
  completion (feeding each suspended call the function's answer) equals continuing `k` with the result of `eval e`.
-/
import RevalModel.Lemmas.Prog
import RevalModel.Impl.Async

namespace Reval

/-- the third reading of a program, suspending at every invocation: `evalK` -/
def Prog.cps (env : Env) {γ : Type} : {α : Type} → Prog α → St → (Res α → St → List Event → Resumption γ) → Resumption γ
  | _, .ret r, st, k => k r st []
  | _, .seq m f, st, k =>
    m.cps env st fun r st1 ev =>
      match r with
      | .ok a => (f a).cps env st1 fun r2 st2 ev2 => k r2 st2 (ev ++ ev2)
      | .err x => k (.err x) st1 ev
      | .panic s => k (.panic s) st1 ev
      | .frontier p a => k (.frontier p a) st1 ev
  | _, .call rp f v, st, k => callFnK env f v st fun r st2 ev2 => k r st2 (.reach rp f v :: ev2)

theorem cps_prog {γ : Type} (env : Env) :
    (∀ rp e, (prog env rp e).cps env = evalK (α := γ) env rp e) ∧
    (∀ rp i kvs, (progMap env rp i kvs).cps env = evalMapK (α := γ) env rp i kvs) ∧
    (∀ rp i es, (progList env rp i es).cps env = evalListK (α := γ) env rp i es) := by
  refine prog.mutual_induct _ _ _ ?lit ?ref ?sym ?index ?call ?ite ?and ?or ?eq ?neq ?un ?bin ?vec ?map ?nilL ?consL
    ?nilM ?consM
  all_goals
    intros; funext st k
    simp only [prog, progList, progMap, Prog.cps, evalK, evalListK, evalMapK, *]
  -- both sides hand the same evaluation a continuation: compare the two on each kind of result
  case index | un | call | vec | map => congr; funext r st1 ev; cases r <;> simp only [List.append_nil]
  case bin | consL | consM =>
    congr; funext r st1 ev; cases r <;> simp only []
    congr; funext r st2 ev2; cases r <;> simp only [List.append_nil]
  case ite =>
    congr; funext r st1 ev; cases r <;> simp only []
    split <;> simp only [Prog.cps, List.append_nil, *]
  case and | or =>
    congr; funext r st1 ev; cases r <;> simp only []
    split <;> simp only [Prog.cps, List.append_nil, *]
    congr; funext r st2 ev2; cases r <;> simp only []
    split <;> simp only [Prog.cps, List.append_nil]
  case eq | neq =>
    congr; funext r st1 ev; cases r <;> simp only []
    split <;> simp only [Prog.cps, List.append_nil, *]
    congr; funext r st2 ev2; cases r <;> rfl

theorem callFnK_adequate {α : Type} (env : Env) (f : Str) (arg : Value) (st : St) (k : Kont α) :
    run env (callFnK env f arg st k) =
      run env (k (callFn env f arg st).1 (callFn env f arg st).2.1 (callFn env f arg st).2.2) := by
  -- the hypotheses of each outcome of `callFn` rewrite `callFnK` to the same branch (`answer` looks the function up again);
  -- `failed` knows the cache miss only under `cacheable = true`, hence its case split
  unfold callFnK
  apply callFn_cases (Q := fun o => _ = run env (k o.1 o.2.1 o.2.2))
  case failed => intro fm _ _ _ _; cases hc : fm.cacheable <;> simp_all [run, answer]
  all_goals intros; simp [run, answer, *]

theorem cps_adequate (env : Env) {α γ : Type} (p : Prog α) (st : St) (k : Res α → St → List Event → Resumption γ) :
    run env (p.cps env st k) = run env (k (p.run env st).1 (p.run env st).2.1 (p.run env st).2.2) := by
  induction p generalizing st with
  | ret r => rfl
  | seq m f ihm ihf =>
    simp only [Prog.cps, Prog.run]
    rw [ihm]
    rcases m.run env st with ⟨r, st1, ev⟩
    cases r <;> simp only []
    exact ihf ..
  | call rp f v => exact callFnK_adequate env f v st _

theorem evalK_adequate {α : Type} (env : Env) (rp : List Nat) (e : Expr) (st : St) (k : Kont α) :
    run env (evalK env rp e st k) = run env (k (eval env rp e st).1 (eval env rp e st).2.1 (eval env rp e st).2.2) :=
  eval_eq_run env rp e ▸ (cps_prog env).1 rp e ▸ cps_adequate env _ st k

theorem adequacy (env : Env) (e : Expr) : run env (exprTask env e) = eval env [] e St.init := by
  unfold exprTask
  rw [evalK_adequate]; rfl

theorem evalRulesK_adequate {α : Type} (env : Env) : ∀ (rules : List Expr) (i : Nat) (st : St)
    (k : List (Res Value) → St → List Event → Resumption α),
    run env (evalRulesK env i rules st k) =
      run env (k (evalRules env i rules st).1 (evalRules env i rules st).2.1 (evalRules env i rules st).2.2)
  | [], _, _, _ => rfl
  | e :: es, i, st, k => by
    simp only [evalRulesK, evalRules]
    rw [evalK_adequate, evalRulesK_adequate env es]

theorem ruleset_adequacy (env : Env) (rules : List Expr) : run env (rulesetTask env rules) = evaluateValue env rules := by
  unfold rulesetTask evaluateValue
  rw [evalRulesK_adequate]; rfl

end Reval
