/-
  Lemmas/Liveness.lean — schedules (C12, C18).  After any schedule, task `i` is the original task `i` polled as often as the
  schedule names it, and nothing else (`getElem?_runSched`); a poll never changes what a task finishes with; and a task's
  remaining cost `need` is a number that every poll of that task lowers by exactly one, down to 0.
-/
import RevalModel.Impl.Async

namespace Reval

theorem pollAt_eq_modify {α : Type} (env : Env) (susp : Str → Value → Nat → Nat) :
    ∀ (ts : List (Task α)) (i : Nat), pollAt env susp i ts = ts.modify i (pollTask env susp)
  | [], _ => by simp [pollAt]
  | _ :: _, 0 => by simp [pollAt]
  | _ :: ts, i + 1 => by simp [pollAt, pollAt_eq_modify env susp ts i]

theorem repeat_comm {α : Type} (f : α → α) (a : α) : ∀ n, Nat.repeat f n (f a) = f (Nat.repeat f n a)
  | 0 => rfl
  | n + 1 => congrArg f (repeat_comm f a n)

theorem getElem?_runSched {α : Type} (env : Env) (susp : Str → Value → Nat → Nat) (sched : List Nat) (i : Nat) :
    ∀ ts : List (Task α),
      (runSched env susp sched ts)[i]? = (ts[i]?).map (Nat.repeat (pollTask env susp) (sched.count i)) := by
  induction sched with
  | nil => intro ts; cases h : ts[i]? <;> simp [runSched, h, Nat.repeat]
  | cons s rest ih =>
    intro ts
    rw [runSched, ih, pollAt_eq_modify, List.getElem?_modify, List.count_cons]
    cases ts[i]? with
    | none => rfl
    | some t => by_cases h : s = i <;> simp [h, Nat.repeat, repeat_comm]

theorem run_pollTask {α : Type} (env : Env) (susp : Str → Value → Nat → Nat) (t : Task α) :
    run env (pollTask env susp t).res = run env t.res := by
  obtain ⟨res, p⟩ := t
  cases res with
  | done a => rfl
  | await f arg idx k =>
    cases p with
    | succ n => rfl
    | zero =>
      simp only [pollTask, run]
      cases k (answer env f idx arg) <;> rfl

theorem run_repeat {α : Type} (env : Env) (susp : Str → Value → Nat → Nat) (t : Task α) :
    ∀ n, run env (Nat.repeat (pollTask env susp) n t).res = run env t.res
  | 0 => rfl
  | n + 1 => (run_pollTask env susp _).trans (run_repeat env susp t n)

theorem runSched_outcome {α : Type} (env : Env) (susp : Str → Value → Nat → Nat) (sched : List Nat)
    (ts : List (Task α)) (i : Nat) (t' : Task α) (h : (runSched env susp sched ts)[i]? = some t') :
    ∃ t, ts[i]? = some t ∧ run env t'.res = run env t.res := by
  rw [getElem?_runSched, Option.map_eq_some_iff] at h
  obtain ⟨t, ht, rfl⟩ := h
  exact ⟨t, ht, run_repeat env susp t _⟩

theorem repeat_done {α : Type} (env : Env) (susp : Str → Value → Nat → Nat) (a : α) (p : Nat) :
    ∀ n, Nat.repeat (pollTask env susp) n ⟨.done a, p⟩ = ⟨.done a, p⟩
  | 0 => rfl
  | n + 1 => by rw [Nat.repeat, repeat_done env susp a p n]; rfl

theorem map_eraseIdx {α β} (f : α → β) (l : List α) (i : Nat) : (l.eraseIdx i).map f = (l.map f).eraseIdx i := by
  simp only [List.eraseIdx_eq_take_drop_succ, List.map_append, List.map_take, List.map_drop]

/-- how often a freshly entered resumption will report `Pending` before its first call answers -/
def entryCost {α : Type} (susp : Str → Value → Nat → Nat) : Resumption α → Nat
  | .done _ => 0
  | .await f arg idx _ => susp f arg idx

/-- polls needed to finish a resumption whose current call is ready to answer -/
def cost {α : Type} (env : Env) (susp : Str → Value → Nat → Nat) : Resumption α → Nat
  | .done _ => 0
  | .await f arg idx k =>
    1 + entryCost susp (k (answer env f idx arg)) + cost env susp (k (answer env f idx arg))

/-- polls a task still needs: the suspensions left on the current call, then the rest -/
def need {α : Type} (env : Env) (susp : Str → Value → Nat → Nat) (t : Task α) : Nat :=
  match t.res with
  | .done _ => 0
  | .await f arg idx k => t.pending + cost env susp (.await f arg idx k)

theorem need_pollTask {α : Type} (env : Env) (susp : Str → Value → Nat → Nat) (t : Task α) :
    need env susp (pollTask env susp t) = need env susp t - 1 := by
  obtain ⟨res, p⟩ := t
  cases res with
  | done a => simp [pollTask, need]
  | await f arg idx k =>
    cases p with
    | succ n => simp only [pollTask, need]; omega
    | zero =>
      simp only [pollTask]
      cases hk : k (answer env f idx arg) with
      | done a => simp [need, cost, entryCost, hk]
      | await f' a' i' k' => simp only [need, cost, entryCost, hk]; omega

theorem need_zero_done {α : Type} (env : Env) (susp : Str → Value → Nat → Nat) (t : Task α)
    (h : need env susp t = 0) : ∃ a, t.res = .done a := by
  obtain ⟨res, p⟩ := t
  cases res with
  | done a => exact ⟨a, rfl⟩
  | await f arg idx k => simp only [need, cost] at h; omega

theorem need_repeat {α : Type} (env : Env) (susp : Str → Value → Nat → Nat) (t : Task α) :
    ∀ n, need env susp (Nat.repeat (pollTask env susp) n t) = need env susp t - n
  | 0 => rfl
  | n + 1 => by rw [Nat.repeat, need_pollTask, need_repeat env susp t n]; omega

theorem need_runSched {α : Type} (env : Env) (susp : Str → Value → Nat → Nat) (sched : List Nat) :
    ∀ (ts : List (Task α)) (i : Nat) (t : Task α), ts[i]? = some t →
      ∃ t', (runSched env susp sched ts)[i]? = some t' ∧ need env susp t' = need env susp t - sched.count i :=
  fun ts i t h => ⟨_, by rw [getElem?_runSched, h]; rfl, need_repeat env susp t _⟩

end Reval
