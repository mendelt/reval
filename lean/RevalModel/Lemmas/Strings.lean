/-
  Lemmas/Strings.lean — what the string primitives compute, stated without reference to how:
  `isInfix` is the substring relation (core's `<:+:`), `trim` returns the middle piece between two runs of white space,
  the ASCII case maps are idempotent and undo each other up to case, `parseI128` reads exactly the sign-and-digits
  numerals of the i128 range.
-/
import RevalModel.Prim.DecTime

namespace Reval.Str

theorem isPrefix_iff_prefix (p s : Str) : isPrefix p s = true ↔ p <+: s := by
  rw [← List.isPrefixOf_iff_prefix]
  fun_induction isPrefix p s <;> simp_all

theorem isInfix_iff (t s : Str) : isInfix t s = true ↔ ∃ pre post, s = pre ++ t ++ post := by
  -- core's infix relation `t <:+: s`, which is this statement with the equation turned round
  have key : isInfix t s = true ↔ t <:+: s := by
    induction s with
    | nil => simp [isInfix]
    | cons c cs ih => simp [isInfix, isPrefix_iff_prefix, List.infix_cons_iff, ih]
  exact key.trans ⟨fun ⟨a, b, h⟩ => ⟨a, b, h.symm⟩, fun ⟨a, b, h⟩ => ⟨a, b, h.symm⟩⟩

theorem dropWhile_head_not (p : Char → Bool) (s : Str) (c : Char) (r : Str) (h : s.dropWhile p = c :: r) : p c = false := by
  have := List.head_dropWhile_not p (l := s) (by simp [h]); simpa [h] using this

theorem dropWhile_eq_self {p : Char → Bool} : ∀ {l : Str}, (∀ c r, l = c :: r → p c = false) → l.dropWhile p = l
  | [], _ => rfl
  | c :: r, h => by simp [h c r rfl]

theorem trimStart_spec (s : Str) :
    s = s.takeWhile isWhite ++ trimStart s ∧ (s.takeWhile isWhite).all isWhite = true ∧
    (∀ c r, trimStart s = c :: r → isWhite c = false) := by
  exact ⟨(List.takeWhile_append_dropWhile).symm, List.all_takeWhile, fun c r h => dropWhile_head_not _ s c r h⟩

theorem trimEnd_spec (s : Str) :
    s = trimEnd s ++ (s.reverse.takeWhile isWhite).reverse ∧ ((s.reverse.takeWhile isWhite).reverse).all isWhite = true ∧
    (∀ c, (trimEnd s).getLast? = some c → isWhite c = false) := by
  -- `trimEnd` is `trimStart` on the reversed string
  obtain ⟨h1, h2, h3⟩ := trimStart_spec s.reverse
  refine ⟨?_, by rwa [List.all_reverse], fun c h => ?_⟩
  · have := congrArg List.reverse h1
    rwa [List.reverse_append, List.reverse_reverse] at this
  · rw [trimEnd, List.getLast?_reverse, List.head?_eq_some_iff] at h
    obtain ⟨r, hr⟩ := h
    exact h3 c r hr

theorem trim_spec (s : Str) : ∃ l r, s = l ++ trim s ++ r ∧ l.all isWhite = true ∧ r.all isWhite = true ∧
    (∀ c u, trim s = c :: u → isWhite c = false) ∧ (∀ c, (trim s).getLast? = some c → isWhite c = false) := by
  obtain ⟨h1, h2, h3⟩ := trimStart_spec s
  obtain ⟨e1, e2, e3⟩ := trimEnd_spec (trimStart s)
  refine ⟨s.takeWhile isWhite, ((trimStart s).reverse.takeWhile isWhite).reverse, ?_, h2, e2, ?_, e3⟩
  · unfold trim; rw [List.append_assoc, ← e1]; exact h1
  · intro c u hc
    unfold trim at hc
    rw [hc] at e1
    exact h3 c _ e1

theorem trim_eq_self {t : Str} (hh : ∀ c u, t = c :: u → isWhite c = false)
    (hl : ∀ c, t.getLast? = some c → isWhite c = false) : trim t = t := by
  have he : (t.reverse.dropWhile isWhite) = t.reverse :=
    dropWhile_eq_self fun c r h => hl c (by rw [← List.head?_reverse, h]; rfl)
  rw [trim, trimStart, dropWhile_eq_self hh, trimEnd, he, List.reverse_reverse]

theorem trim_idempotent (s : Str) : trim (trim s) = trim s :=
  let ⟨_, _, _, _, _, hh, hl⟩ := trim_spec s
  trim_eq_self hh hl

/-- stated over `Fin 128` and `Char.ofNat` so that the kernel can enumerate it; `ascii_char` carries it over to
    `c.toNat < 128` -/
theorem ascii_char_facts : ∀ n : Fin 128,
    asciiUpper (asciiUpper (Char.ofNat n)) = asciiUpper (Char.ofNat n) ∧
    asciiLower (asciiLower (Char.ofNat n)) = asciiLower (Char.ofNat n) ∧
    asciiLower (asciiUpper (Char.ofNat n)) = asciiLower (Char.ofNat n) ∧
    asciiUpper (asciiLower (Char.ofNat n)) = asciiUpper (Char.ofNat n) ∧
    (asciiUpper (Char.ofNat n)).toNat < 128 ∧ (asciiLower (Char.ofNat n)).toNat < 128 := by
  decide +kernel

theorem ascii_char (c : Char) (h : c.toNat < 128) :
    asciiUpper (asciiUpper c) = asciiUpper c ∧ asciiLower (asciiLower c) = asciiLower c ∧
    asciiLower (asciiUpper c) = asciiLower c ∧ asciiUpper (asciiLower c) = asciiUpper c ∧
    (asciiUpper c).toNat < 128 ∧ (asciiLower c).toNat < 128 := by
  have := ascii_char_facts ⟨c.toNat, h⟩
  simpa [Char.ofNat_toNat] using this

theorem isAscii_iff (s : Str) : isAscii s = true ↔ ∀ c ∈ s, c.toNat < 128 := by
  simp [isAscii, List.all_eq_true]

theorem map_ascii (s : Str) (h : isAscii s = true) :
    isAscii (s.map asciiUpper) = true ∧ isAscii (s.map asciiLower) = true ∧
    (s.map asciiUpper).map asciiUpper = s.map asciiUpper ∧ (s.map asciiLower).map asciiLower = s.map asciiLower ∧
    (s.map asciiUpper).map asciiLower = s.map asciiLower ∧ (s.map asciiLower).map asciiUpper = s.map asciiUpper := by
  rw [isAscii_iff] at h
  have ascii : ∀ g : Char → Char, (∀ c ∈ s, (g c).toNat < 128) → isAscii (s.map g) = true := fun g hg => by
    rw [isAscii_iff]; intro c hm; obtain ⟨d, hd, rfl⟩ := List.mem_map.1 hm; exact hg d hd
  have comp : ∀ f g k : Char → Char, (∀ c ∈ s, f (g c) = k c) → (s.map g).map f = s.map k := fun f g k e => by
    rw [List.map_map]; exact List.map_congr_left e
  -- each part is one of the six facts of `ascii_char` at a character of `s`, found by its statement
  refine ⟨ascii _ fun c m => ?_, ascii _ fun c m => ?_, comp _ _ _ fun c m => ?_, comp _ _ _ fun c m => ?_,
    comp _ _ _ fun c m => ?_, comp _ _ _ fun c m => ?_⟩ <;>
  obtain ⟨upUp, loLo, loUp, upLo, upAscii, loAscii⟩ := ascii_char c (h c m) <;> assumption

end Reval.Str

/-! `parseI128`: its lemmas are named in `Reval` itself, so that the files that do not `open Str` can name them -/

namespace Reval
open Str

/-- what `parseI128` does after the sign (a device for proofs about `parseI128`, which itself binds sign and digits in one `let`) -/
def parseCore (neg : Bool) (ds : Str) : Option Int :=
  if ds.isEmpty || !ds.all isDigit then none
  else I128.checked (if neg then -(ofDigits ds : Int) else (ofDigits ds : Int))

theorem parseI128_eq (s : Str) : Str.parseI128 s =
    (match s with
     | '-' :: r => parseCore true r
     | '+' :: r => parseCore false r
     | r => parseCore false r) := by
  split
  · rfl
  · rfl
  · rename_i h1 h2
    unfold Str.parseI128 parseCore
    split
    rename_i neg ds heq
    split at heq <;> cases heq
    · exact (h1 _ rfl).elim
    · exact (h2 _ rfl).elim
    · rfl

theorem parseCore_iff (neg : Bool) (ds : Str) (n : Int) : parseCore neg ds = some n ↔
    (ds ≠ [] ∧ ds.all isDigit = true ∧ n = (if neg then -(ofDigits ds : Int) else (ofDigits ds : Int)) ∧ I128.inRange n = true) := by
  unfold parseCore I128.checked
  generalize (if neg = true then -(ofDigits ds : Int) else (ofDigits ds : Int)) = x
  by_cases he : ds = []
  · simp [he]
  by_cases hd : ds.all isDigit = true
  · rw [if_neg (by simp [he, hd])]
    split
    · next hin => exact ⟨fun e => ⟨he, hd, (Option.some.inj e).symm, Option.some.inj e ▸ hin⟩, fun e => by rw [e.2.2.1]⟩
    · next hin => exact ⟨nofun, fun e => absurd (e.2.2.1 ▸ e.2.2.2) hin⟩
  · simp [hd]

theorem parseI128_spec (s : Str) (n : Int) : Str.parseI128 s = some n ↔
    ∃ (neg : Bool) (ds : Str), (s = ds ∧ neg = false ∨ s = '+' :: ds ∧ neg = false ∨ s = '-' :: ds ∧ neg = true) ∧
      ds ≠ [] ∧ ds.all isDigit = true ∧ n = (if neg then -(ofDigits ds : Int) else (ofDigits ds : Int)) ∧ I128.inRange n = true := by
  rw [parseI128_eq]
  constructor
  · intro h
    split at h <;> exact ⟨_, _, by simp, (parseCore_iff _ _ _).1 h⟩
  · rintro ⟨neg, ds, hs, hrest⟩
    have hc := (parseCore_iff neg ds n).2 hrest
    rcases hs with ⟨rfl, rfl⟩ | ⟨rfl, rfl⟩ | ⟨rfl, rfl⟩
    · -- without a sign: the first character is a digit, so neither `-` nor `+`
      split
      · simp [isDigit] at hrest
      · simp [isDigit] at hrest
      · exact hc
    · exact hc
    · exact hc

theorem parseI128_inRange {s : Str} {n : Int} (h : Str.parseI128 s = some n) : I128.inRange n = true :=
  let ⟨_, _, _, _, _, _, hr⟩ := (parseI128_spec s n).1 h; hr

end Reval
