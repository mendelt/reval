/-
  Lemmas/DecExact.lean — what the Decimal cells compute, as theorems about the model of `rust_decimal`
  (Prim/DecTime.lean).  `+ − ×` end in one common tail, `Dec.ofFit`: the exact rational result, rounded half-even at
  the finest scale at which the mantissa fits 96 bits; exactly the exact result when that fits at the operands' scale;
  an overflow only when not even the rounding to an integer fits.  Never a wrapped or truncated mantissa.
  `floor`, `round`, `fract` and the comparisons by value.
-/
import RevalModel.Prim.DecTime

namespace Reval
namespace Dec

/-- `rhe n d` is a nearest integer to `n / d`: the error is at most half a unit -/
theorem rhe_near (n d : Nat) (hd : 0 < d) :
    2 * ((rhe n d : Int) * d - n).natAbs ≤ d := by
  have h2 := Nat.mod_lt n hd
  have hn : (n : Int) = (n / d : Nat) * d + (n % d : Nat) := by
    exact_mod_cast (Nat.div_add_mod' n d).symm
  unfold rhe; dsimp only
  generalize n / d = q at *
  generalize n % d = r at *
  rw [hn]
  split <;> (try split) <;> (try split) <;> push_cast [Int.add_mul, Int.one_mul] <;> omega

theorem rhe_tie_even (n d : Nat) (h : 2 * (n % d) = d) : rhe n d % 2 = 0 := by
  unfold rhe; dsimp only
  have h0 : ¬ (2 * (n % d) > d) := by omega
  rw [if_neg h0, if_pos h]
  split <;> omega

theorem fit_spec (n s start : Nat) :
    match fit n s start with
    | some (m, sc) => sc ≤ start ∧ m = rhe n (10 ^ (s - sc)) ∧ m ≤ maxMant ∧
        ∀ sc', sc < sc' → sc' ≤ start → maxMant < rhe n (10 ^ (s - sc'))
    | none => ∀ sc', sc' ≤ start → maxMant < rhe n (10 ^ (s - sc')) := by
  fun_induction fit n s start
  · rename_i hle; exact ⟨Nat.le_refl _, rfl, hle, fun _ _ _ => by omega⟩
  · rename_i hbig; intro sc' h; obtain rfl : sc' = 0 := by omega
    exact Nat.lt_of_not_le hbig
  · rename_i hle; exact ⟨Nat.le_refl _, rfl, hle, fun _ _ _ => by omega⟩
  · rename_i start _ hbig ih
    -- one more scale at which it does not fit, whatever the lower scales give
    have hstep : ∀ sc', sc' ≤ start + 1 → ¬ sc' ≤ start → maxMant < rhe n (10 ^ (s - sc')) := fun sc' l1 l2 => by
      obtain rfl : sc' = start + 1 := by omega
      exact Nat.lt_of_not_le hbig
    split at ih
    · exact ⟨by omega, ih.2.1, ih.2.2.1, fun sc' l1 l2 =>
        if e : sc' ≤ start then ih.2.2.2 sc' l1 e else hstep sc' l2 e⟩
    · exact fun sc' l => if e : sc' ≤ start then ih sc' e else hstep sc' l e

theorem rhe_one (n : Nat) : rhe n 1 = n := by
  unfold rhe; simp [Nat.mod_one]

theorem rhe_le (n d : Nat) : rhe n d ≤ n / d + 1 := by
  unfold rhe; simp only []; split <;> (try split) <;> (try split) <;> omega

theorem pow10_pos (s : Nat) : 0 < 10 ^ s := Nat.pow_pos (by decide)

theorem int_pow10_pos (s : Nat) : (0 : Int) < 10 ^ s := Int.pow_pos (by decide)

/-- the common tail of `+ − ×`: the exact result `±n / 10^s`, fitted from scale `start` downwards -/
def ofFit (neg : Bool) (n s start : Nat) : Out :=
  match fit n s start with
  | none => .overflow
  | some (m, sc) => if m = 0 then .unknown else .val ⟨neg, m, sc⟩

/-- the exact numerator of `a ± b` over `10 ^ max a.scale b.scale` -/
def sumNum (a : Dec) (bneg : Bool) (b : Dec) : Int :=
  let s := if a.scale ≥ b.scale then a.scale else b.scale
  a.num * 10 ^ (s - a.scale) + (if bneg then -(b.mant : Int) else (b.mant : Int)) * 10 ^ (s - b.scale)

def sumScale (a b : Dec) : Nat := if a.scale ≥ b.scale then a.scale else b.scale

theorem addSigned_eq (a : Dec) (bneg : Bool) (b : Dec) (ha : a.mant ≠ 0) (hb : b.mant ≠ 0) :
    addSigned a bneg b =
      ofFit (decide (sumNum a bneg b < 0)) (sumNum a bneg b).natAbs (sumScale a b) (sumScale a b) := by
  unfold addSigned; rw [if_neg (by omega), if_neg hb, if_neg ha]; rfl

theorem mul_eq (a b : Dec) (ha : a.mant ≠ 0) (hb : b.mant ≠ 0) :
    mul a b = ofFit (a.neg != b.neg) (a.mant * b.mant) (a.scale + b.scale)
      (if a.scale + b.scale ≤ 28 then a.scale + b.scale else 28) := by
  unfold mul; rw [if_neg (by simp [ha, hb])]; rfl

/-- what `+ − ×` return, as a property of the outcome: the exact result `±n / 10^s` rounded half-even at the finest scale
    `≤ start` at which the mantissa fits 96 bits; an overflow only when it fits at no scale; `.unknown` only says that the
    result rounds to zero at some scale (sign and scale of a zero are the library's) -/
def Fitted (neg : Bool) (n s start : Nat) : Out → Prop
  | .val d => d.scale ≤ start ∧ d.mant ≤ maxMant ∧ d.neg = neg ∧ d.mant = rhe n (10 ^ (s - d.scale)) ∧
      2 * ((d.mant : Int) * (10 ^ (s - d.scale) : Nat) - n).natAbs ≤ 10 ^ (s - d.scale) ∧
      ∀ sc', d.scale < sc' → sc' ≤ start → maxMant < rhe n (10 ^ (s - sc'))
  | .overflow => ∀ sc', sc' ≤ start → maxMant < rhe n (10 ^ (s - sc'))
  | .unknown => ∃ sc, sc ≤ start ∧ rhe n (10 ^ (s - sc)) = 0

theorem ofFit_spec (neg : Bool) (n s start : Nat) : Fitted neg n s start (ofFit neg n s start) := by
  unfold ofFit
  have hs := fit_spec n s start
  split at hs
  · rename_i m sc hf
    rw [hf]; dsimp only
    by_cases hm : m = 0
    · rw [if_pos hm]; subst hm; exact ⟨sc, hs.1, hs.2.1.symm⟩
    · rw [if_neg hm]
      refine ⟨hs.1, hs.2.2.1, rfl, hs.2.1, ?_, hs.2.2.2⟩
      have := rhe_near n (10 ^ (s - sc)) (pow10_pos _)
      rw [← hs.2.1] at this; exact this
  · rename_i hf; rw [hf]; exact hs

theorem ofFit_exact (neg : Bool) (n s : Nat) (hn : n ≠ 0) (hfit : n ≤ maxMant) : ofFit neg n s s = .val ⟨neg, n, s⟩ := by
  have hf : fit n s s = some (n, s) := by cases s <;> simp [fit, rhe_one, hfit]
  unfold ofFit; rw [hf]; dsimp only; rw [if_neg hn]

theorem addSigned_spec (a : Dec) (bneg : Bool) (b : Dec) (ha : a.mant ≠ 0) (hb : b.mant ≠ 0) :
    Fitted (decide (sumNum a bneg b < 0)) (sumNum a bneg b).natAbs (sumScale a b) (sumScale a b) (addSigned a bneg b) := by
  rw [addSigned_eq a bneg b ha hb]; exact ofFit_spec _ _ _ _

theorem addSigned_exact_when_fits (a : Dec) (bneg : Bool) (b : Dec) (ha : a.mant ≠ 0) (hb : b.mant ≠ 0)
    (hz : sumNum a bneg b ≠ 0) (hfit : (sumNum a bneg b).natAbs ≤ maxMant) :
    addSigned a bneg b = .val ⟨decide (sumNum a bneg b < 0), (sumNum a bneg b).natAbs, sumScale a b⟩ := by
  rw [addSigned_eq a bneg b ha hb]; exact ofFit_exact _ _ _ (by omega) hfit

theorem mul_spec (a b : Dec) (ha : a.mant ≠ 0) (hb : b.mant ≠ 0) :
    Fitted (a.neg != b.neg) (a.mant * b.mant) (a.scale + b.scale) (min (a.scale + b.scale) 28) (mul a b) := by
  rw [mul_eq a b ha hb, ← Nat.min_def]; exact ofFit_spec _ _ _ _

theorem mul_exact_when_fits (a b : Dec) (ha : a.mant ≠ 0) (hb : b.mant ≠ 0)
    (hs : a.scale + b.scale ≤ 28) (hfit : a.mant * b.mant ≤ maxMant) :
    mul a b = .val ⟨a.neg != b.neg, a.mant * b.mant, a.scale + b.scale⟩ := by
  rw [mul_eq a b ha hb, if_pos hs]; exact ofFit_exact _ _ _ (Nat.mul_ne_zero ha hb) hfit

theorem natAbs_num (d : Dec) : d.num.natAbs = d.mant := by
  unfold num; split <;> simp

theorem num_sign_natAbs (n : Int) (s : Nat) : Dec.num ⟨decide (n < 0), n.natAbs, s⟩ = n := by
  unfold num; simp only [decide_eq_true_eq]; split <;> omega

/-- the integer `floor` builds (the truncation, less one for a negative inexact value) is the floor quotient -/
theorem floor_quot (d : Dec) :
    (if d.neg && decide (d.toInt * 10 ^ d.scale ≠ d.num) then d.toInt - 1 else d.toInt) = d.num / 10 ^ d.scale := by
  have hP := int_pow10_pos d.scale
  generalize hPe : (10 : Int) ^ d.scale = P at *
  unfold toInt
  -- `Int.tdiv_eq_ediv`: the truncated quotient is the floor quotient plus one exactly when the dividend is negative and
  -- not divisible, and that one is what `floor` takes off
  rw [hPe, Int.tdiv_eq_ediv, Int.sign_eq_one_of_pos hP]
  by_cases hdiv : P ∣ d.num
  · simp [hdiv, Int.ediv_mul_cancel hdiv]
  · by_cases hn : d.neg = true
    · have : ¬ 0 ≤ d.num := by
        intro h0; unfold num at h0 hdiv; rw [hn] at h0 hdiv
        simp only [if_true] at h0 hdiv
        exact hdiv (by rw [show ((d.mant : Int)) = 0 by omega]; simp)
      simp only [this, hdiv, or_self, if_false, hn, Bool.true_and, decide_eq_true_eq]
      rw [if_pos (Int.ne_of_gt (Int.lt_ediv_add_one_mul_self d.num hP))]; omega
    · have : 0 ≤ d.num := by unfold num; simp [hn]
      simp [this, hn]

/-- what `floor` returns when the model predicts it (a zero result is left to the library); likewise `round_val`,
    `fract_val` -/
theorem floor_val {d r : Dec} (h : floor d = .val r) :
    r = ⟨decide (d.num / 10 ^ d.scale < 0), (d.num / 10 ^ d.scale).natAbs, 0⟩ := by
  unfold floor at h; dsimp only at h; rw [floor_quot] at h
  split at h <;> cases h; rfl

theorem round_val {d r : Dec} (h : round d = .val r) : r = ⟨d.neg, rhe d.mant (10 ^ d.scale), 0⟩ := by
  unfold round at h; dsimp only at h
  split at h <;> cases h; rfl

theorem fract_val {d r : Dec} (h : fract d = .val r) : r = ⟨d.neg, d.mant % 10 ^ d.scale, d.scale⟩ := by
  unfold fract at h; dsimp only at h
  split at h <;> cases h; rfl

theorem floor_spec {d r : Dec} (h : floor d = .val r) :
    r.scale = 0 ∧ r.num * 10 ^ d.scale ≤ d.num ∧ d.num < (r.num + 1) * 10 ^ d.scale := by
  have hP := int_pow10_pos d.scale
  rw [floor_val h, num_sign_natAbs]
  exact ⟨rfl, Int.ediv_mul_le _ (Int.ne_of_gt hP), Int.lt_ediv_add_one_mul_self _ hP⟩

theorem round_spec {d r : Dec} (h : round d = .val r) :
    r.scale = 0 ∧ r.neg = d.neg ∧ 2 * ((r.mant : Int) * (10 ^ d.scale : Nat) - d.mant).natAbs ≤ 10 ^ d.scale ∧
    (2 * (d.mant % 10 ^ d.scale) = 10 ^ d.scale → r.mant % 2 = 0) := by
  rw [round_val h]
  exact ⟨rfl, rfl, rhe_near d.mant (10 ^ d.scale) (pow10_pos _), rhe_tie_even d.mant (10 ^ d.scale)⟩

theorem fract_spec {d r : Dec} (h : fract d = .val r) :
    r.scale = d.scale ∧ r.neg = d.neg ∧ r.mant = d.mant % 10 ^ d.scale ∧
    d.mant = (d.mant / 10 ^ d.scale) * 10 ^ d.scale + r.mant := by
  rw [fract_val h]
  exact ⟨rfl, rfl, rfl, by rw [Nat.mul_comm]; exact (Nat.div_add_mod d.mant (10 ^ d.scale)).symm⟩

theorem pow_split (b : Int) (hi lo : Nat) (h : lo ≤ hi) : b ^ hi = b ^ (hi - lo) * b ^ lo := by
  rw [← Int.pow_add]; congr 1; omega

/-- the two sides `cmpNum` compares are the cross products, up to a common positive factor -/
theorem cmpNum_cross (a b : Dec) : ∃ P : Int, 0 < P ∧
    (cmpNum a b).1 * P = a.num * 10 ^ b.scale ∧ (cmpNum a b).2 * P = b.num * 10 ^ a.scale := by
  unfold cmpNum; dsimp only
  split
  · rename_i h
    exact ⟨10 ^ b.scale, int_pow10_pos _, by rw [Nat.sub_self, Int.pow_zero, Int.mul_one],
      by rw [Int.mul_assoc, ← pow_split 10 a.scale b.scale h]⟩
  · rename_i h
    exact ⟨10 ^ a.scale, int_pow10_pos _, by rw [Int.mul_assoc, ← pow_split 10 b.scale a.scale (by omega)],
      by rw [Nat.sub_self, Int.pow_zero, Int.mul_one]⟩

theorem lt_cross (a b : Dec) : Dec.lt a b = decide (a.num * 10 ^ b.scale < b.num * 10 ^ a.scale) := by
  obtain ⟨P, hP, h1, h2⟩ := cmpNum_cross a b
  simp only [← h1, ← h2, Int.mul_lt_mul_right hP]; rfl

theorem le_cross (a b : Dec) : Dec.le a b = decide (a.num * 10 ^ b.scale ≤ b.num * 10 ^ a.scale) := by
  obtain ⟨P, hP, h1, h2⟩ := cmpNum_cross a b
  simp only [← h1, ← h2, Int.mul_le_mul_right hP]; rfl

theorem eqNum_iff_cross (a b : Dec) : Dec.eqNum a b = true ↔ a.num * 10 ^ b.scale = b.num * 10 ^ a.scale := by
  obtain ⟨P, hP, h1, h2⟩ := cmpNum_cross a b
  rw [← h1, ← h2, Int.mul_eq_mul_right_iff (Int.ne_of_gt hP)]; simp [Dec.eqNum]

theorem eqNum_refl (a : Dec) : Dec.eqNum a a = true := by
  simp [Dec.eqNum, Dec.cmpNum]

theorem eqNum_symm (a b : Dec) : Dec.eqNum a b = Dec.eqNum b a :=
  Bool.eq_iff_iff.2 (by rw [Dec.eqNum_iff_cross, Dec.eqNum_iff_cross, eq_comm])

end Dec

end Reval
