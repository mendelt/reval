/-
  Lemmas/Calendar.lean — `civil` (the model of chrono's year / month / day of a `DateTime<Utc>`) is the inverse of
  the day count of the proleptic Gregorian calendar, for every date (no bound on the year); the day count is
  anchored at the epoch and consecutive, so it is the calendar.
  Both are Hinnant's `civil_from_days` / `days_from_civil` on March-based years; their constants: 146097 days in a
  400-year cycle, 36524 in a century, 1460 = 4·365, 153 days in the five months from March to July, 719468 days from
  0000-03-01 to 1970-01-01.
-/
import RevalModel.Spec.Calendar

namespace Reval
namespace Time

/-- days from 1 March of year 0 to 1 March of year `y` -/
def yearDays (y : Int) : Int := 365 * y + y / 4 - y / 100 + y / 400

/-! Both directions rest on two counts and their steps: `yearDays y'` days lie before 1 March of year `y'`, `(153 mp + 2) / 5`
    days of a March-based year before the first of its month `mp`.  `daysFromCivil` adds them up (`daysFromCivil_eq`), `civil`
    finds the year and the month whose stretch of days holds a given day (`civil_of_count`); a year is `yearDays_step` long, a
    month `lastDay_eq`. -/

theorem daysFromCivil_eq (y m d : Int) :
    daysFromCivil y m d =
      yearDays (if m ≤ 2 then y - 1 else y) + (153 * (if m > 2 then m - 3 else m + 9) + 2) / 5 + d - 719469 := by
  unfold daysFromCivil yearDays; dsimp only
  generalize (if m ≤ 2 then y - 1 else y) = y'
  generalize (153 * (if m > 2 then m - 3 else m + 9) + 2) / 5 = md
  omega

theorem isLeap_iff (y : Int) : isLeap y = true ↔ y % 4 = 0 ∧ (y % 100 ≠ 0 ∨ y % 400 = 0) := by
  simp only [isLeap, Bool.or_eq_true, Bool.and_eq_true, beq_iff_eq, bne_iff_ne]; omega

/-- the March-based year that ends with February of year `y` has 365 days, and one more in a leap year -/
theorem yearDays_step (y : Int) : yearDays y = yearDays (y - 1) + if isLeap y then 366 else 365 := by
  unfold yearDays
  split <;> rename_i h <;> rw [isLeap_iff] at h <;> omega

theorem lastDay_feb (y : Int) : lastDay y 2 = if isLeap y then 29 else 28 := rfl

/-- outside February the table of month lengths is the month formula's own count -/
theorem lastDay_eq (y m mp : Int) (hm : 1 ≤ m ∧ m ≤ 12) (h2 : m ≠ 2) (hmp : (if m > 2 then m - 3 else m + 9) = mp) :
    lastDay y m = (153 * (mp + 1) + 2) / 5 - (153 * mp + 2) / 5 := by
  subst hmp
  have : m = 1 ∨ m = 3 ∨ m = 4 ∨ m = 5 ∨ m = 6 ∨ m = 7 ∨ m = 8 ∨ m = 9 ∨ m = 10 ∨ m = 11 ∨ m = 12 := by omega
  rcases this with h | h | h | h | h | h | h | h | h | h | h <;> subst h <;> rfl

theorem lastDay_bounds (y m : Int) : 28 ≤ lastDay y m ∧ lastDay y m ≤ 31 := by
  unfold lastDay; split <;> (try split) <;> omega

/-! the inverse, on variables -/

theorem yearDays_cycle (era x : Int) : yearDays (era * 400 + x) = era * 146097 + yearDays x := by
  unfold yearDays; omega

theorem div_era (era doe : Int) (h0 : 0 ≤ doe) (h1 : doe ≤ 146096) :
    (era * 146097 + doe) / 146097 = era ∧ (era * 146097 + doe) - ((era * 146097 + doe) / 146097) * 146097 = doe := by
  omega

/-- the year formula on day `doe` of the cycle, given where it lies: in century `c` (four centuries of 36524 days and one day
    more) and in year `r` of that century, which begins after `r` years and `r / 4` leap days.  `doe / 1460` counts the leap
    days passed, up to the slack of the division by 365 -/
theorem year_of_doe (c r doe : Int) (hc : 0 ≤ c ∧ c ≤ 3) (hr : 0 ≤ r ∧ r ≤ 99)
    (h1 : c * 36524 + r * 365 + r / 4 ≤ doe) (h2 : doe < c * 36524 + (r + 1) * 365 + (r + 1) / 4)
    (h3 : doe < (c + 1) * 36524 + c / 3) :
    (doe - doe / 1460 + doe / 36524 - doe / 146096) / 365 = 100 * c + r ∧ 0 ≤ doe ∧ doe ≤ 146096 := by
  -- century and year apart: `omega` does not get through the four nested divisions of the year formula in one go.
  -- `clear` before `omega`, here as elsewhere in the file: it reads every hypothesis
  have hcent : doe / 36524 - doe / 146096 = c := by clear h2; omega
  have hyoc : (doe - doe / 1460 + c) / 365 = 100 * c + r := by clear h3 hcent; omega
  refine ⟨?_, by clear hcent hyoc; omega, by clear hcent hyoc h2; omega⟩
  rw [show doe - doe / 1460 + doe / 36524 - doe / 146096 = doe - doe / 1460 + c by clear hyoc; omega, hyoc]

/-- `yearDays` on year `r` of century `c` of a cycle, and where the next year begins at the latest -/
theorem yearDays_century (c r : Int) (hc : 0 ≤ c ∧ c ≤ 3) (hr : 0 ≤ r ∧ r ≤ 99) :
    yearDays (100 * c + r) = c * 36524 + r * 365 + r / 4 ∧
    yearDays (100 * c + r + 1) ≤ c * 36524 + (r + 1) * 365 + (r + 1) / 4 ∧
    yearDays (100 * c + r + 1) ≤ (c + 1) * 36524 + c / 3 := by
  unfold yearDays; refine ⟨?_, ?_, ?_⟩ <;> omega

/-- the year of the cycle is the one whose days hold day `doe` of the cycle -/
theorem yoe_of_doe (yoe doe : Int) (hy : 0 ≤ yoe ∧ yoe ≤ 399) (h1 : yearDays yoe ≤ doe) (h2 : doe < yearDays (yoe + 1)) :
    (doe - doe / 1460 + doe / 36524 - doe / 146096) / 365 = yoe ∧ 0 ≤ doe ∧ doe ≤ 146096 := by
  obtain ⟨c, r, rfl, hc, hr⟩ : ∃ c r, yoe = 100 * c + r ∧ (0 ≤ c ∧ c ≤ 3) ∧ 0 ≤ r ∧ r ≤ 99 :=
    ⟨yoe / 100, yoe % 100, by omega, by omega, by omega⟩
  obtain ⟨e1, e2, e3⟩ := yearDays_century c r hc hr
  exact year_of_doe c r doe hc hr (e1 ▸ h1) (Int.lt_of_lt_of_le h2 e2) (Int.lt_of_lt_of_le h2 e3)

/-- the month formula: day `d` of a month that has at least `d` days by the formula's own count -/
theorem mp_of_doy (mp d : Int) (hd : 1 ≤ d) (hlen : d ≤ (153 * (mp + 1) + 2) / 5 - (153 * mp + 2) / 5) :
    (5 * ((153 * mp + 2) / 5 + d - 1) + 2) / 153 = mp := by omega

/-- the `let` chain of `civil` with its intermediate values named: later proofs supply the values and never unfold `civil` -/
theorem civil_eq (days era doe yoe doy mp : Int) (h1 : days + 719468 = era * 146097 + doe)
    (h0 : 0 ≤ doe) (h2 : doe ≤ 146096)
    (hyoe : (doe - doe / 1460 + doe / 36524 - doe / 146096) / 365 = yoe)
    (hdoy : doe - (365 * yoe + yoe / 4 - yoe / 100) = doy) (hmp : (5 * doy + 2) / 153 = mp) :
    civil days = (if (if mp < 10 then mp + 3 else mp - 9) ≤ 2 then yoe + era * 400 + 1 else yoe + era * 400,
                  (if mp < 10 then mp + 3 else mp - 9), doy - (153 * mp + 2) / 5 + 1) := by
  unfold civil
  dsimp only
  rw [h1, (div_era era doe h0 h2).2, (div_era era doe h0 h2).1, hyoe, hdoy, hmp]

/-- `civil` finds the March-based year `y'` and month `mp` whose days hold the day: day `d` of a month that has at least `d`
    days by the formula's own count, in a year that is long enough -/
theorem civil_of_count (y' mp d : Int) (hd : 1 ≤ d)
    (hlen : d ≤ (153 * (mp + 1) + 2) / 5 - (153 * mp + 2) / 5)
    (hyear : (153 * mp + 2) / 5 + d ≤ yearDays (y' + 1) - yearDays y') (hmp : 0 ≤ mp) :
    civil (yearDays y' + (153 * mp + 2) / 5 + d - 719469) =
      (if (if mp < 10 then mp + 3 else mp - 9) ≤ 2 then y' + 1 else y', (if mp < 10 then mp + 3 else mp - 9), d) := by
  obtain ⟨era, yoe, rfl, hy⟩ : ∃ era yoe, y' = era * 400 + yoe ∧ 0 ≤ yoe ∧ yoe ≤ 399 :=
    ⟨y' / 400, y' % 400, by omega, by omega, by omega⟩
  rw [Int.add_assoc, yearDays_cycle, yearDays_cycle] at hyear
  rw [yearDays_cycle]
  have hmp' := mp_of_doy mp d hd hlen
  generalize hdoy : (153 * mp + 2) / 5 + d - 1 = doy at hmp'
  clear hlen
  have hB := yoe_of_doe yoe (yearDays yoe + doy) hy (by omega) (by omega)
  have hf : yearDays yoe + doy - (365 * yoe + yoe / 4 - yoe / 100) = doy := by
    clear hB hyear hdoy hmp'; unfold yearDays; omega
  rw [civil_eq _ era (yearDays yoe + doy) yoe doy mp (by clear hB hyear hf hmp'; omega) hB.2.1 hB.2.2 hB.1 hf hmp']
  clear hB hyear hf hmp'
  congr 2 <;> omega

theorem civil_daysFromCivil (y m d : Int) (hm : 1 ≤ m ∧ m ≤ 12) (hd : 1 ≤ d ∧ d ≤ lastDay y m) :
    civil (daysFromCivil y m d) = (y, m, d) := by
  rw [daysFromCivil_eq]
  generalize hy' : (if m ≤ 2 then y - 1 else y) = y'
  generalize hmp : (if m > 2 then m - 3 else m + 9) = mp
  have hmpr : 0 ≤ mp ∧ (if mp < 10 then mp + 3 else mp - 9) = m := by omega
  have hstep := yearDays_step (y' + 1)
  rw [Int.add_sub_cancel] at hstep
  have hl : d ≤ (153 * (mp + 1) + 2) / 5 - (153 * mp + 2) / 5 ∧
      (153 * mp + 2) / 5 + d ≤ yearDays (y' + 1) - yearDays y' := by
    by_cases h2 : m = 2
    · -- February ends with its year
      subst h2
      obtain rfl : y - 1 = y' := by simpa using hy'
      obtain rfl : (11 : Int) = mp := by simpa using hmp
      rw [lastDay_feb] at hd
      rw [Int.sub_add_cancel] at hstep ⊢
      clear hmpr hy' hmp hm
      split at hd <;> rename_i h <;> simp only [h, if_true] at hstep <;> omega
    · have hlen := lastDay_eq y m mp hm h2 hmp
      clear hy' hmpr
      split at hstep <;> omega
  rw [civil_of_count y' mp d hd.1 hl.1 hl.2 hmpr.1, hmpr.2]
  clear hl hstep hmpr hmp hd
  congr 1; omega

theorem civil_of_valid {y m d : Int} (hv : ValidDate y m d) : civil (daysFromCivil y m d) = (y, m, d) :=
  civil_daysFromCivil y m d ⟨hv.1, hv.2.1⟩ ⟨hv.2.2.1, hv.2.2.2⟩

/-- a bound on the day number bounds the year (`civil_inRange`) -/
theorem natAbs_le_yearDays (y : Int) : y.natAbs ≤ (yearDays y).natAbs := by unfold yearDays; omega

theorem daysFromCivil_epoch : daysFromCivil 1970 1 1 = 0 := by decide

theorem daysFromCivil_next_day (y m d : Int) : daysFromCivil y m (d + 1) = daysFromCivil y m d + 1 := by
  rw [daysFromCivil_eq, daysFromCivil_eq]; omega

/-- the first of the next month follows the last of this one: by the length of the year from February to March, by
    the month formula's own count (`lastDay_eq`) elsewhere -/
theorem daysFromCivil_next_month (y m : Int) (hm : 1 ≤ m ∧ m ≤ 11) :
    daysFromCivil y (m + 1) 1 = daysFromCivil y m (lastDay y m) + 1 := by
  rw [daysFromCivil_eq, daysFromCivil_eq]
  by_cases h2 : m = 2
  · subst h2
    have := yearDays_step y
    rw [lastDay_feb]; split at this <;> rename_i h <;> simp [h] <;> omega
  · rw [lastDay_eq y m _ ⟨hm.1, by omega⟩ h2 rfl]
    by_cases h1 : m = 1
    · subst h1; simp; omega
    · -- March to November: the same March-based year on both sides
      rw [if_neg (by omega : ¬ m + 1 ≤ 2), if_pos (by omega : m + 1 > 2), if_neg (by omega : ¬ m ≤ 2),
        if_pos (by omega : m > 2)]
      omega

theorem daysFromCivil_next_year (y : Int) : daysFromCivil (y + 1) 1 1 = daysFromCivil y 12 31 + 1 := by
  rw [daysFromCivil_eq, daysFromCivil_eq]; simp; omega

theorem valid_first {y m : Int} (hm : 1 ≤ m ∧ m ≤ 12) : ValidDate y m 1 :=
  ⟨hm.1, hm.2, Int.le_refl 1, Int.le_trans (by decide) (lastDay_bounds y m).1⟩

theorem valid_last {y m : Int} (hm : 1 ≤ m ∧ m ≤ 12) : ValidDate y m (lastDay y m) :=
  ⟨hm.1, hm.2, Int.le_trans (by decide) (lastDay_bounds y m).1, Int.le_refl _⟩

theorem exists_next (y m d : Int) (hv : ValidDate y m d) :
    ∃ y' m' d', ValidDate y' m' d' ∧ daysFromCivil y' m' d' = daysFromCivil y m d + 1 := by
  obtain ⟨hm1, hm2, hd1, hd2⟩ := hv
  by_cases hlast : d < lastDay y m
  · exact ⟨y, m, d + 1, ⟨hm1, hm2, by omega, by omega⟩, daysFromCivil_next_day y m d⟩
  · obtain rfl : d = lastDay y m := by omega
    by_cases hdec : m = 12
    · subst hdec; exact ⟨y + 1, 1, 1, valid_first (by decide), daysFromCivil_next_year y⟩
    · exact ⟨y, m + 1, 1, valid_first (by omega), daysFromCivil_next_month y m ⟨hm1, by omega⟩⟩

theorem exists_prev (y m d : Int) (hv : ValidDate y m d) :
    ∃ y' m' d', ValidDate y' m' d' ∧ daysFromCivil y' m' d' = daysFromCivil y m d - 1 := by
  obtain ⟨hm1, hm2, hd1, hd2⟩ := hv
  -- written as successors, the day, the month or the year fits the `next` lemma
  by_cases hfirst : 1 < d
  · obtain ⟨d, rfl⟩ : ∃ d', d = d' + 1 := ⟨d - 1, by omega⟩
    exact ⟨y, m, d, ⟨hm1, hm2, by omega, by omega⟩, by rw [daysFromCivil_next_day]; omega⟩
  · obtain rfl : d = 1 := by omega
    by_cases hjan : m = 1
    · obtain ⟨y, rfl⟩ : ∃ y', y = y' + 1 := ⟨y - 1, by omega⟩
      exact ⟨y, 12, 31, valid_last (by decide), by rw [hjan, daysFromCivil_next_year]; omega⟩
    · obtain ⟨m, rfl⟩ : ∃ m', m = m' + 1 := ⟨m - 1, by omega⟩
      exact ⟨y, m, _, valid_last (by omega), by rw [daysFromCivil_next_month y m (by omega)]; omega⟩

/-- every natural day number and its negative are day numbers of dates: both directions at once, so that one induction
    serves -/
theorem exists_date_nat : ∀ k : Nat, (∃ y m d, ValidDate y m d ∧ daysFromCivil y m d = (k : Int)) ∧
    (∃ y m d, ValidDate y m d ∧ daysFromCivil y m d = -(k : Int))
  | 0 => ⟨⟨1970, 1, 1, valid_first (by decide), daysFromCivil_epoch⟩, ⟨1970, 1, 1, valid_first (by decide), daysFromCivil_epoch⟩⟩
  | k + 1 => by
    obtain ⟨⟨y, m, d, hv, hn⟩, ⟨y2, m2, d2, hv2, hn2⟩⟩ := exists_date_nat k
    obtain ⟨y', m', d', hv', hn'⟩ := exists_next y m d hv
    obtain ⟨y3, m3, d3, hv3, hn3⟩ := exists_prev y2 m2 d2 hv2
    exact ⟨⟨y', m', d', hv', by rw [hn', hn]; push_cast; rfl⟩, ⟨y3, m3, d3, hv3, by rw [hn3, hn2]; push_cast; omega⟩⟩

theorem exists_date (n : Int) : ∃ y m d, ValidDate y m d ∧ daysFromCivil y m d = n := by
  by_cases h : 0 ≤ n
  · have := (exists_date_nat n.toNat).1
    rw [Int.toNat_of_nonneg h] at this; exact this
  · have := (exists_date_nat (-n).toNat).2
    rw [Int.toNat_of_nonneg (by omega)] at this
    rw [show - -n = n by omega] at this; exact this

/-- `civil` of ANY day number is the date of the calendar with that number -/
theorem civil_valid_and_inverse (n : Int) :
    ValidDate (civil n).1 (civil n).2.1 (civil n).2.2 ∧
    daysFromCivil (civil n).1 (civil n).2.1 (civil n).2.2 = n := by
  obtain ⟨y, m, d, hv, hn⟩ := exists_date n
  have := civil_of_valid hv
  rw [hn] at this
  rw [this]; exact ⟨hv, hn⟩

/-- kept in this form; nothing uses it -/
theorem daysFromCivil_injective (y m d y' m' d' : Int) (hv : ValidDate y m d) (hv' : ValidDate y' m' d')
    (h : daysFromCivil y m d = daysFromCivil y' m' d') : (y, m, d) = (y', m', d') := by
  have h1 := civil_of_valid hv
  have h2 := civil_of_valid hv'
  rw [h] at h1; rw [← h1, h2]

end Time
end Reval
