/-
  Lemmas/Ranges.lean — the primitives stay within the ranges of their Rust types: i128 arithmetic and the bitwise
  operators on two's-complement patterns, `rust_decimal`'s 96-bit mantissa and scale ≤ 28 (read off what the operations
  return, `Lemmas/DecExact.lean`), chrono's bounds (the calendar parts through `Lemmas/Calendar.lean`: `civil` yields a date).
-/
import RevalModel.Lemmas.Calendar
import RevalModel.Lemmas.DecExact
import RevalModel.Lemmas.IntTime

namespace Reval

theorem I128.inRange_iff (n : Int) : I128.inRange n = true ↔ -(2^127) ≤ n ∧ n ≤ 2^127 - 1 := by
  unfold I128.inRange I128.min I128.max; simp only [Bool.and_eq_true, decide_eq_true_eq]

theorem I128.inRange_of_natAbs {n : Int} (h : n.natAbs < 2 ^ 127) : I128.inRange n = true := by
  rw [I128.inRange_iff]; omega

theorem I128.natAbs_le_of_inRange {n : Int} (h : I128.inRange n = true) : n.natAbs ≤ 2 ^ 127 := by
  rw [I128.inRange_iff] at h; omega

theorem I128.ofU_inRange {u : Nat} (h : u < 2 ^ 128) : I128.inRange (I128.ofU u) = true := by
  rw [I128.inRange_iff]; unfold I128.ofU; split <;> omega

theorem I128.land_inRange (a b : Int) : I128.inRange (I128.land a b) = true :=
  I128.ofU_inRange (Nat.and_lt_two_pow _ (I128.toU_lt b))
theorem I128.lor_inRange (a b : Int) : I128.inRange (I128.lor a b) = true :=
  I128.ofU_inRange (Nat.or_lt_two_pow (I128.toU_lt a) (I128.toU_lt b))
theorem I128.xor_inRange (a b : Int) : I128.inRange (I128.xor a b) = true :=
  I128.ofU_inRange (Nat.xor_lt_two_pow (I128.toU_lt a) (I128.toU_lt b))

theorem I128.checked_inRange {n r : Int} (h : I128.checked n = some r) : I128.inRange r = true :=
  let ⟨hr, e⟩ := Option.ite_some_none_eq_some.1 h; e ▸ hr

theorem I128.tdiv_inRange {a b : Int} (ha : I128.inRange a = true) (hm : ¬(a = I128.min ∧ b = -1)) :
    I128.inRange (Int.tdiv a b) = true := by
  have h2 := I128.natAbs_le_of_inRange ha
  by_cases hb2 : 2 ≤ b.natAbs
  · -- the quotient is at most half the dividend
    refine I128.inRange_of_natAbs ?_
    have : a.natAbs / b.natAbs ≤ a.natAbs / 2 := Nat.div_le_div_left hb2 (by decide)
    rw [Int.natAbs_tdiv]; show a.natAbs / b.natAbs < 2 ^ 127; omega
  · obtain rfl | rfl | rfl : b = 0 ∨ b = 1 ∨ b = -1 := by omega
    · rw [Int.tdiv_zero]; decide
    · simpa using ha
    · rw [Int.tdiv_neg, Int.tdiv_one]; rw [I128.inRange_iff] at *; unfold I128.min at hm; omega

theorem I128.tmod_inRange {a : Int} (b : Int) (ha : I128.inRange a = true) : I128.inRange (Int.tmod a b) = true := by
  have h3 : (Int.tmod a b).natAbs ≤ a.natAbs := by rw [Int.natAbs_tmod]; exact Nat.mod_le _ _
  have := tmod_sign a b
  rw [I128.inRange_iff] at ha ⊢; omega

theorem I128.checkedDiv_inRange {a b r : Int} (ha : I128.inRange a = true) (h : I128.checkedDiv a b = some r) :
    I128.inRange r = true := by
  obtain ⟨_, h⟩ := Option.ite_none_left_eq_some.1 h
  obtain ⟨hm, h⟩ := Option.ite_none_left_eq_some.1 h
  exact Option.some.inj h ▸ I128.tdiv_inRange ha hm

theorem I128.checkedRem_inRange {a b r : Int} (ha : I128.inRange a = true) (h : I128.checkedRem a b = some r) :
    I128.inRange r = true := by
  obtain ⟨_, h⟩ := Option.ite_none_left_eq_some.1 h
  obtain ⟨_, h⟩ := Option.ite_none_left_eq_some.1 h
  exact Option.some.inj h ▸ I128.tmod_inRange b ha

namespace Dec

theorem wf_iff (d : Dec) : d.wf = true ↔ d.mant ≤ maxMant ∧ d.scale ≤ 28 := by
  unfold wf maxScale; simp only [Bool.and_eq_true, decide_eq_true_eq]

theorem ofFit_wf {neg : Bool} {n s start : Nat} {d : Dec} (hst : start ≤ 28) (h : ofFit neg n s start = .val d) :
    d.wf = true := by
  have hs := ofFit_spec neg n s start
  rw [h] at hs
  exact (wf_iff d).2 ⟨hs.2.1, Nat.le_trans hs.1 hst⟩

theorem addSigned_wf {a b d : Dec} (bneg : Bool) (ha : a.wf = true) (hb : b.wf = true)
    (h : addSigned a bneg b = .val d) : d.wf = true := by
  by_cases hb0 : b.mant = 0
  · unfold addSigned at h; rw [if_pos hb0] at h; split at h <;> cases h; exact ha
  by_cases ha0 : a.mant = 0
  · unfold addSigned at h; rw [if_neg (by omega), if_neg hb0, if_pos ha0] at h; cases h; exact hb
  rw [addSigned_eq a bneg b ha0 hb0] at h
  rw [wf_iff] at ha hb
  exact ofFit_wf (by unfold sumScale; split <;> omega) h

theorem mul_wf {a b d : Dec} (h : mul a b = .val d) : d.wf = true := by
  by_cases h0 : a.mant = 0 ∨ b.mant = 0
  · unfold mul at h; rw [if_pos (by simpa using h0)] at h; cases h; decide
  · rw [mul_eq a b (by omega) (by omega)] at h; exact ofFit_wf (by split <;> omega) h

theorem negate_wf {d : Dec} (h : d.wf = true) : (negate d).wf = true := by
  rw [wf_iff] at *; exact h

theorem natAbs_toInt (d : Dec) : d.toInt.natAbs = d.mant / 10 ^ d.scale := by
  unfold toInt
  rw [Int.natAbs_tdiv, natAbs_num]
  congr 1

theorem toInt_inRange {d : Dec} (h : d.wf = true) : I128.inRange d.toInt = true := by
  rw [wf_iff] at h
  have h1 := natAbs_toInt d
  have h2 : d.mant / 10 ^ d.scale ≤ d.mant := Nat.div_le_self _ _
  exact I128.inRange_of_natAbs (by unfold maxMant at h; omega)

theorem div_pow10_le (m : Nat) {s : Nat} (hs : s ≠ 0) : m / 10 ^ s ≤ m / 10 := by
  obtain ⟨k, rfl⟩ := Nat.exists_eq_succ_of_ne_zero hs
  exact Nat.div_le_div_left (by rw [Nat.pow_succ]; have := pow10_pos k; omega) (by decide)

theorem floor_wf {d r : Dec} (hd : d.wf = true) (h : floor d = .val r) : r.wf = true := by
  rw [wf_iff] at *
  have := Int.natAbs_ediv_le_natAbs d.num (10 ^ d.scale)
  rw [natAbs_num] at this
  rw [floor_val h]; exact ⟨Nat.le_trans this hd.1, Nat.zero_le _⟩

theorem round_wf {d r : Dec} (hd : d.wf = true) (h : round d = .val r) : r.wf = true := by
  rw [wf_iff] at *
  rw [round_val h]
  refine ⟨?_, Nat.zero_le _⟩
  by_cases hs : d.scale = 0
  · rw [hs, Nat.pow_zero, rhe_one]; exact hd.1
  · -- rounding adds at most one to a quotient that is at most a tenth of the mantissa
    have h1 := rhe_le d.mant (10 ^ d.scale)
    have h3 := div_pow10_le d.mant hs
    unfold maxMant at *; dsimp only; omega

theorem fract_wf {d r : Dec} (hd : d.wf = true) (h : fract d = .val r) : r.wf = true := by
  rw [wf_iff] at *
  rw [fract_val h]; exact ⟨Nat.le_trans (Nat.mod_le _ _) hd.1, hd.2⟩

theorem ofInt_wf {n : Int} {d : Dec} (h : ofInt n = some d) : d.wf = true := by
  unfold ofInt at h; split at h
  · injection h with h; subst h; rw [wf_iff]; exact ⟨by assumption, by simp⟩
  · simp at h

end Dec

namespace Time

theorem dtInRange_iff (t : Int) : dtInRange t = true ↔ dtMin ≤ t ∧ t ≤ dtMax := by
  unfold dtInRange; simp only [Bool.and_eq_true, decide_eq_true_eq]
theorem durInRange_iff (t : Int) : durInRange t = true ↔ -durMax ≤ t ∧ t ≤ durMax := by
  unfold durInRange; simp only [Bool.and_eq_true, decide_eq_true_eq]

theorem fromTimestamp_inRange {s t : Int} (h : fromTimestamp s = some t) : dtInRange t = true :=
  let ⟨hr, e⟩ := Option.ite_some_none_eq_some.1 h; e ▸ hr
theorem trySeconds_inRange {s t : Int} (h : trySeconds s = some t) : durInRange t = true :=
  let ⟨hr, e⟩ := Option.ite_some_none_eq_some.1 h; e ▸ hr
theorem tryUnits_inRange {u s t : Int} (h : tryUnits u s = some t) : durInRange t = true := by
  unfold tryUnits at h; split at h
  · exact trySeconds_inRange h
  · simp at h

theorem numUnits_inRange (u : Int) {d : Int} (h : durInRange d = true) : I128.inRange (numUnits u d) = true := by
  rw [durInRange_iff] at h
  apply I128.inRange_of_natAbs
  unfold numUnits numSeconds
  have h1 := Int.natAbs_tdiv_le_natAbs (Int.tdiv d nsPerSec) u
  have h2 := Int.natAbs_tdiv_le_natAbs d nsPerSec
  unfold durMax at h; omega

theorem hour_inRange (t : Int) : I128.inRange (hour t) = true := by
  have := (timeOfDay_total t).1; exact I128.inRange_of_natAbs (by omega)
theorem minute_inRange (t : Int) : I128.inRange (minute t) = true := by
  have := (timeOfDay_total t).2.1; exact I128.inRange_of_natAbs (by omega)
theorem second_inRange (t : Int) : I128.inRange (second t) = true := by
  have := (timeOfDay_total t).2.2.1; exact I128.inRange_of_natAbs (by omega)

/-- the calendar parts of an instant within chrono's bounds: `civil` yields a date of the calendar whose day number
    it was given (`civil_valid_and_inverse`), which bounds month and day outright and the year by the day number -/
theorem civil_inRange {t : Int} (h : dtInRange t = true) :
    I128.inRange (year t) = true ∧ I128.inRange (month t) = true ∧ I128.inRange (day t) = true := by
  -- `dtMin` and `dtMax` in whole seconds
  have hs : -8334601228800 ≤ secsOf t ∧ secsOf t ≤ 8210266876799 := by
    rw [dtInRange_iff] at h; unfold dtMin dtMax nsPerSec at h; unfold secsOf nsPerSec; omega
  unfold year month day
  obtain ⟨⟨hm1, hm2, hd1, hd2⟩, hinv⟩ := civil_valid_and_inverse (secsOf t / 86400)
  have hl := (lastDay_bounds (civil (secsOf t / 86400)).1 (civil (secsOf t / 86400)).2.1).2
  generalize civil (secsOf t / 86400) = ymd at *
  obtain ⟨y, m, d⟩ := ymd
  rw [daysFromCivil_eq] at hinv
  have hy := natAbs_le_yearDays (if m ≤ 2 then y - 1 else y)
  dsimp only at *
  clear h   -- `omega` reads every hypothesis: it is given only what each bound needs
  exact ⟨I128.inRange_of_natAbs (by omega), I128.inRange_of_natAbs (by clear hinv; omega),
    I128.inRange_of_natAbs (by clear hinv; omega)⟩

theorem year_inRange {t : Int} (h : dtInRange t = true) : I128.inRange (year t) = true := (civil_inRange h).1
theorem month_inRange {t : Int} (h : dtInRange t = true) : I128.inRange (month t) = true := (civil_inRange h).2.1
theorem day_inRange {t : Int} (h : dtInRange t = true) : I128.inRange (day t) = true := (civil_inRange h).2.2

end Time

theorem dt_sub_dt_inRange (a b : Int) (ha : Time.dtInRange a = true) (hb : Time.dtInRange b = true) :
    Time.durInRange (a - b) = true := by
  rw [Time.dtInRange_iff] at ha hb; rw [Time.durInRange_iff]
  unfold Time.dtMin Time.dtMax Time.nsPerSec at ha hb; unfold Time.durMax; omega

theorem I64.inRange_iff (n : Int) : I64.inRange n = true ↔ -2 ^ 63 ≤ n ∧ n ≤ 2 ^ 63 - 1 := by
  simp [I64.inRange, IntKind.inRange, IntKind.i64, IntKind.lo, IntKind.hi]

/-- chrono's ranges, in nanoseconds, lie far inside i64 seconds: the `i64::try_from` in front of the constructors of
    instants and spans never decides (one statement for both: the left disjunct serves `duration(Int)` and the unit
    constructors, the right one `datetime(Int)`) -/
theorem I64.inRange_of_ns {n : Int}
    (h : Time.durInRange (n * Time.nsPerSec) = true ∨ Time.dtInRange (n * Time.nsPerSec) = true) :
    I64.inRange n = true := by
  rw [I64.inRange_iff]; rw [Time.durInRange_iff, Time.dtInRange_iff] at h
  unfold Time.durMax Time.dtMin Time.dtMax Time.nsPerSec at h; omega

theorem I64.inRange_of_mul {i u : Int} (hu : 0 < u) (h : I64.inRange (i * u) = true) : I64.inRange i = true := by
  rw [I64.inRange_iff] at *
  rcases Int.le_total 0 i with hi | hi
  · have := Int.mul_le_mul_of_nonneg_left (show 1 ≤ u by omega) hi; omega
  · have := Int.mul_le_mul_of_nonpos_left hi (show 1 ≤ u by omega); omega

end Reval
