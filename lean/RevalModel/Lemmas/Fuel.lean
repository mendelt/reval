/-
  Lemmas/Fuel.lean — the fuel of the reference parser is sufficient: two fuels that both reach `14 * |ts| + a_X` (a
  constant per parsing function, explained at `Agree`) give the same result for each of the eleven functions, whatever
  that result is.  Hence `pIf o f ts = pIf o (parseFuel ts) ts` for every `f ≥ parseFuel ts`: the executable `parseToks`
  is the limit of the fuel-indexed family, and "for every sufficiently large fuel" can be read "for `parseToks`".
-/
import RevalModel.Lemmas.ParserBasic

namespace Reval

/-- `Agree o f (f + 1) f` field for field, with the same constants (keep them identical to `Agree`'s); nothing below uses it -/
structure StableAll (o : Oracle) (f : Nat) : Prop where
  pIf : ∀ ts, 14 * ts.length + 11 ≤ f → pIf o (f+1) ts = pIf o f ts
  pBin : ∀ k ts, 14 * ts.length + 5 + (6 - k) ≤ f → pBin o (f+1) k ts = pBin o f k ts
  pBinLoop : ∀ k acc ts, 14 * ts.length + 1 ≤ f → pBinLoop o (f+1) k acc ts = pBinLoop o f k acc ts
  pContains : ∀ ts, 14 * ts.length + 4 ≤ f → pContains o (f+1) ts = pContains o f ts
  pContainsTail : ∀ ts, 14 * ts.length + 3 ≤ f → pContainsTail o (f+1) ts = pContainsTail o f ts
  pUnary : ∀ ts, 14 * ts.length + 3 ≤ f → pUnary o (f+1) ts = pUnary o f ts
  pIndex : ∀ ts, 14 * ts.length + 2 ≤ f → pIndex o (f+1) ts = pIndex o f ts
  pIndexLoop : ∀ acc ts, 14 * ts.length + 1 ≤ f → pIndexLoop o (f+1) acc ts = pIndexLoop o f acc ts
  pTerm : ∀ ts, 14 * ts.length + 1 ≤ f → pTerm o (f+1) ts = pTerm o f ts
  pVecItems : ∀ ts, 14 * ts.length + 12 ≤ f → pVecItems o (f+1) ts = pVecItems o f ts
  pMapItems : ∀ ts, 14 * ts.length + 1 ≤ f → pMapItems o (f+1) ts = pMapItems o f ts

local macro "stab_branches" hr:ident : tactic =>
  `(tactic| ((repeat' split at $hr:ident) <;> (try subst $hr:ident) <;> grind [RLen, List.length_cons]))

/-- `n` stands for "both fuels are at least this": `agree` goes by induction on `n`, with `f` and `g` going down along.

    Where the bounds `14 * |ts| + a_X` come from (to be recomputed when a level is added to the grammar).  A function
    spends one unit before it calls another, so `a_X` must exceed `a_Y` for every `Y` that `X` calls on its own input:
    `a_X` is the length of the longest chain of such calls down to `pTerm`, the function that takes a token — `pTerm` 1,
    `pIndex` 2, `pUnary` / `pContainsTail` 3, `pContains` 4, `pBin k` `5 + (6 - k)`, `pIf` 11, `pVecItems` 12; the two
    loops and `pMapItems` take a token before their first call: 1.  A call made after `c ≥ 1` tokens needs
    `a_Y + 1 ≤ a_X + 14 * c`; the worst are `pTerm` → `pVecItems` (`12 + 1 ≤ 1 + factor`), `pTerm` → `pIf` and
    `pBinLoop` → `pBin (k + 1)`: a factor of 12 would do, 14 leaves room.  `parseFuel ts = 14 * (|ts| + 2)` is above the
    bound of `pIf`. -/
structure Agree (o : Oracle) (n f g : Nat) : Prop where
  pIf : ∀ ts, 14 * ts.length + 11 ≤ n → pIf o f ts = pIf o g ts
  pBin : ∀ k ts, 14 * ts.length + 5 + (6 - k) ≤ n → pBin o f k ts = pBin o g k ts
  pBinLoop : ∀ k acc ts, 14 * ts.length + 1 ≤ n → pBinLoop o f k acc ts = pBinLoop o g k acc ts
  pContains : ∀ ts, 14 * ts.length + 4 ≤ n → pContains o f ts = pContains o g ts
  pContainsTail : ∀ ts, 14 * ts.length + 3 ≤ n → pContainsTail o f ts = pContainsTail o g ts
  pUnary : ∀ ts, 14 * ts.length + 3 ≤ n → pUnary o f ts = pUnary o g ts
  pIndex : ∀ ts, 14 * ts.length + 2 ≤ n → pIndex o f ts = pIndex o g ts
  pIndexLoop : ∀ acc ts, 14 * ts.length + 1 ≤ n → pIndexLoop o f acc ts = pIndexLoop o g acc ts
  pTerm : ∀ ts, 14 * ts.length + 1 ≤ n → pTerm o f ts = pTerm o g ts
  pVecItems : ∀ ts, 14 * ts.length + 12 ≤ n → pVecItems o f ts = pVecItems o g ts
  pMapItems : ∀ ts, 14 * ts.length + 1 ≤ n → pMapItems o f ts = pMapItems o g ts

/-- the arithmetic of the steps, stated once about variables (`omega` at each of the forty inner calls would be most of
    the cost of `agree_succ`): an inner call with offset `b` on `m` tokens, when `m` and the `c` tokens taken before it
    are within the `len` tokens of the input; `bound0` when nothing was taken -/
theorem bound {len m n a b : Nat} (c : Nat) (hb : 14 * len + a ≤ n + 1) (hm : m + c ≤ len) (h : b < a + 14 * c := by decide) :
    14 * m + b ≤ n := by omega
theorem bound0 {len m n a b : Nat} (hb : 14 * len + a ≤ n + 1) (hm : m ≤ len) (h : b < a := by decide) : 14 * m + b ≤ n := by
  omega

section
variable {o : Oracle} {n f g : Nat} (a : Agree o n f g) (l : LenAll o g)
include a l

/- The induction step.  Each part: unfold one level on both sides (`f`, `g` are variables, so exactly one), turn the first
   inner call from fuel `f` to fuel `g` by `a`, split on its result, and use `l` for the length of what it left.  Where both
   sides are the same `if`, `ite_congr rfl` compares them arm by arm (`split` would simplify the whole goal for each `if`).
   The bounds come from `hb` by `bound` / `bound0`; `omega` only where the offset of `pBin` (`5 + (6 - k)`) is in play. -/
theorem agree_succ : Agree o (n + 1) (f + 1) (g + 1) where
  pIf ts hb := by
    unfold Reval.pIf
    split
    next k r =>
      refine ite_congr rfl (fun _ => ?_) fun _ => a.pBin 1 _ (by omega)
      rw [a.pIf r (bound 1 hb (Nat.le_refl _))]
      split
      next c r1 h1 =>
        have l1 := l.pIf r c r1 h1
        split
        next k1 r2 =>
          refine ite_congr rfl (fun _ => ?_) fun _ => rfl
          rw [a.pIf r2 (bound 2 hb (Nat.succ_le_succ l1))]
          split
          next t r3 h3 =>
            have l3 := l.pIf r2 t r3 h3
            split
            next k2 r4 =>
              refine ite_congr rfl (fun _ => ?_) fun _ => rfl
              rw [a.pIf r4 (bound 3 hb (Nat.succ_le_succ (Nat.le_trans (Nat.succ_le_succ l3) l1)))]
            next => rfl
          next => rfl
        next => rfl
      next => rfl
    next => exact a.pBin 1 _ (by omega)

  pBin k ts hb := by
    unfold Reval.pBin
    refine ite_congr rfl (fun _ => a.pContains ts (by omega)) fun _ => ?_
    rw [a.pBin (k+1) ts (by omega)]
    split
    next x r h => exact a.pBinLoop k x r (by have := l.pBin _ ts x r h; omega)
    next => rfl

  pBinLoop k acc ts hb := by
    unfold Reval.pBinLoop
    split
    next t r =>
      split
      next mk _ =>
        rw [a.pBin (k+1) r (by simp only [List.length_cons] at hb; omega)]
        split
        next x r1 h => exact a.pBinLoop k _ r1 (bound 1 hb (Nat.succ_le_succ (l.pBin _ r x r1 h)))
        next => rfl
      next => rfl
    next => rfl

  pContains ts hb := by
    unfold Reval.pContains
    split
    next s r =>
      exact ite_congr rfl (fun _ => a.pUnary _ (bound0 hb (Nat.le_refl _))) fun _ =>
        a.pContainsTail _ (bound0 hb (Nat.le_refl _))
    next => exact a.pContainsTail _ (bound0 hb (Nat.le_refl _))

  pContainsTail ts hb := by
    unfold Reval.pContainsTail
    rw [a.pIndex ts (bound0 hb (Nat.le_refl _))]
    split
    next x r h =>
      have l1 := l.pIndex ts x r h
      split
      next k r1 => rw [a.pIndex r1 (bound 1 hb l1)]
      next => rfl
    next => rfl

  pUnary ts hb := by
    unfold Reval.pUnary
    split
    next s r => rw [a.pUnary r (bound 1 hb (Nat.le_refl _)), a.pIndex _ (bound0 hb (Nat.le_refl _))]
    next => exact a.pIndex _ (bound0 hb (Nat.le_refl _))

  pIndex ts hb := by
    unfold Reval.pIndex
    rw [a.pTerm ts (bound0 hb (Nat.le_refl _))]
    split
    next x r h => exact a.pIndexLoop x r (bound0 hb (l.pTerm ts x r h))
    next => rfl

  pIndexLoop acc ts hb := by
    unfold Reval.pIndexLoop
    split
    next s r =>
      refine ite_congr rfl (fun _ => ?_) fun _ => rfl
      split
      next k r1 => exact a.pIndexLoop _ r1 (bound 2 hb (Nat.le_refl _))
      next ds r1 => rw [a.pIndexLoop _ r1 (bound 2 hb (Nat.le_refl _))]
      next => rfl
    next => rfl

  pTerm ts hb := by
    unfold Reval.pTerm
    split
    next => rfl
    next k r =>
      split
      next r1 => rw [a.pIf r1 (bound 2 hb (Nat.le_refl _))]
      next => rfl
    next x r =>
      split
      next r1 => rw [a.pIf r1 (bound 2 hb (Nat.le_refl _))]
      next => rfl
    next s r =>
      rw [a.pIf r (bound 1 hb (Nat.le_refl _)), a.pVecItems r (bound 1 hb (Nat.le_refl _)),
        a.pMapItems r (bound 1 hb (Nat.le_refl _))]
    next => rfl

  pVecItems ts hb := by
    unfold Reval.pVecItems
    split
    next => rfl
    next =>
      rw [a.pIf ts (bound0 hb (Nat.le_refl _))]
      split
      next e r h =>
        have l1 := l.pIf ts e r h
        split
        next r1 => rw [a.pVecItems r1 (bound 1 hb l1)]
        next => rfl
        next => rfl
      all_goals rfl

  pMapItems ts hb := by
    unfold Reval.pMapItems
    split
    next => rfl
    next k r =>
      rw [a.pIf r (bound 2 hb (Nat.le_refl _))]
      split
      next e r1 h =>
        have l1 := l.pIf r e r1 h
        split
        next r2 => rw [a.pMapItems r2 (bound 3 hb (Nat.succ_le_succ (Nat.succ_le_succ l1)))]
        next => rfl
        next => rfl
      all_goals rfl
    next => rfl

end

theorem agree (o : Oracle) : ∀ n f g, n ≤ f → n ≤ g → Agree o n f g
  | 0, _, _, _, _ => by constructor <;> intros <;> omega
  | n + 1, f + 1, g + 1, hf, hg =>
    agree_succ (agree o n f g (by omega) (by omega)) (lenAll o g)

theorem stableAll (o : Oracle) : ∀ f, StableAll o f := fun f =>
  -- field for field the case `f + 1`, `f` of `agree`
  { agree o f (f + 1) f (by omega) (by omega) with }

theorem pIf_fuel_enough (o : Oracle) (ts : List Tok) : ∀ f, parseFuel ts ≤ f → pIf o f ts = pIf o (parseFuel ts) ts := fun f h =>
  (agree o (parseFuel ts) f (parseFuel ts) h (Nat.le_refl _)).pIf ts (by simp only [parseFuel]; omega)

theorem parseToks_ok_iff (o : Oracle) (e : Expr) (T : List Tok) :
    parseToks o T = .ok e [] ↔ pIf o (parseFuel T) T = .ok e [] := by
  unfold parseToks
  split
  next h => rw [h]
  next h => simp [h]
  next => rfl

theorem eventually_iff_parseFuel (o : Oracle) (ts : List Tok) (r : PR Expr) :
    (∃ f0, ∀ f, f0 ≤ f → pIf o f ts = r) ↔ pIf o (parseFuel ts) ts = r := by
  constructor
  · intro ⟨f0, h⟩
    have := h (max f0 (parseFuel ts)) (Nat.le_max_left _ _)
    rw [pIf_fuel_enough o ts _ (Nat.le_max_right _ _)] at this
    exact this
  · intro h
    exact ⟨parseFuel ts, fun f hf => by rw [pIf_fuel_enough o ts f hf, h]⟩

end Reval
