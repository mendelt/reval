/-
  Lemmas/Exact.lean — range-sensitive primitives are exact over unbounded `Int`: the result is the
  mathematical one when it is in range and an *error* otherwise (never wrapped, saturated or truncated).
-/
import RevalModel.Spec.OperatorTable
import RevalModel.Lemmas.Ranges

namespace Reval

/-- (kept in this form; nothing below uses it) -/
theorem checked_eq (n : Int) : I128.checked n = if I128.inRange n then some n else none := rfl

/-- the shape of the Int cells `+ − ×` and unary minus (`i128::checked_add`, `_sub`, `_mul`, `_neg`) -/
theorem ofOpt_checked (n : Int) (e : Err) (mk : Int → Value) :
    ofOpt (I128.checked n) e mk = if I128.inRange n then .ok (mk n) else .err e := by
  unfold I128.checked; split <;> rfl

theorem ofOpt_checkedDiv (a b : Int) (e : Err) (mk : Int → Value) :
    ofOpt (I128.checkedDiv a b) e mk = if b = 0 ∨ (a = I128.min ∧ b = -1) then .err e else .ok (mk (Int.tdiv a b)) := by
  unfold I128.checkedDiv; by_cases h0 : b = 0 <;> by_cases h1 : a = I128.min ∧ b = -1 <;> simp [ofOpt, h0, h1]

theorem ofOpt_checkedRem (a b : Int) (e : Err) (mk : Int → Value) :
    ofOpt (I128.checkedRem a b) e mk = if b = 0 ∨ (a = I128.min ∧ b = -1) then .err e else .ok (mk (Int.tmod a b)) := by
  unfold I128.checkedRem; by_cases h0 : b = 0 <;> by_cases h1 : a = I128.min ∧ b = -1 <;> simp [ofOpt, h0, h1]

/-- `datetime(Int)`, `duration(Int)`: a range test `r` behind an i64 test `c` that it implies.  For `exact`, not `rw`: the
    `match` here is this lemma's own matcher, equal to the implementation's only up to unfolding. -/
theorem guarded_exact {c : Prop} [Decidable c] {r : Bool} (h : r = true → c) (x : Int) (e : Err) (mk : Int → Value) :
    (match (if c then (if r then some x else none) else none) with | some t => Res.ok (mk t) | none => .err e) =
      if r then .ok (mk x) else .err e := by
  cases r <;> simp_all

/-- `week(Int)` … `second(Int)`, for any positive unit -/
theorem mkDuration_exact {u : Int} (hu : 0 < u) (v : Value) (i : Int) :
    Impl.mkDuration u v i =
      if Time.durInRange (i * u * Time.nsPerSec) then .ok (.duration (i * u * Time.nsPerSec))
      else .err (.outOfBounds v) := by
  have h2 : Time.durInRange (i * u * Time.nsPerSec) = true → I64.inRange (i * u) = true :=
    fun h => I64.inRange_of_ns (.inl h)
  unfold Impl.mkDuration Time.tryUnits Time.trySeconds
  cases h : Time.durInRange (i * u * Time.nsPerSec)
  · by_cases h3 : I64.inRange i = true <;> by_cases h4 : I64.inRange (i * u) = true <;> simp [h3, h4]
  · simp [h2 h, I64.inRange_of_mul hu (h2 h)]

/-- a span built from `i` units reads back as `i` units -/
theorem mkDuration_roundtrip {u : Int} (hu : 0 < u) {w v : Value} {i : Int} (h : Impl.mkDuration u w i = .ok v) :
    ∃ d, v = .duration d ∧ Time.numUnits u d = i := by
  rw [mkDuration_exact hu] at h
  split at h <;> cases h
  exact ⟨_, rfl, Time.numUnits_mul u i (by omega)⟩

end Reval
