/-
  Lemmas/LexerBasic.lean — the fuel recursion of `lex`, one step at a time: what holds of every token of a step holds of
  every token of a text (`step_forall`, `lex_forall`); `Lexes s ts`: how a text is shown to lex to given tokens, step by step.
-/
import RevalModel.Impl.Lexer

namespace Reval

theorem lexAux_nil (f : Nat) : Lex.lexAux f [] = some [] := by cases f <;> simp [Lex.lexAux]

theorem lexAux_zero (c : Char) (cs : Str) : Lex.lexAux 0 (c :: cs) = none := by simp [Lex.lexAux]

theorem step_nil : Lex.step [] = none := by unfold Lex.step; rfl

theorem lexAux_succ_none (f : Nat) (c : Char) (cs : Str) (h : Lex.step (c :: cs) = none) :
    Lex.lexAux (f + 1) (c :: cs) = none := by simp only [Lex.lexAux, h]

theorem lexAux_succ_skip (f : Nat) {s rest : Str} (h : Lex.step s = some (none, rest)) :
    Lex.lexAux (f + 1) s = Lex.lexAux f rest := by
  cases s with
  | nil => rw [step_nil] at h; cases h
  | cons c cs => simp only [Lex.lexAux, h]

theorem lexAux_succ_tok (f : Nat) {s rest : Str} {t : Tok} (h : Lex.step s = some (some t, rest)) :
    Lex.lexAux (f + 1) s = (Lex.lexAux f rest).map (t :: ·) := by
  cases s with
  | nil => rw [step_nil] at h; cases h
  | cons c cs => simp only [Lex.lexAux, h]

section
open Lex

theorem step_forall {P : Tok → Prop}
    (hw : ∀ c s, isAlpha c = true → P (stepWord c s).1) (hd : ∀ c s, isDigit c = true → P (stepDigit c s).1)
    (hs : ∀ s t r, stepString s = some (t, r) → P t) (hp : ∀ c s t r, stepPunct c s = some (t, r) → P t)
    {s : Str} {t : Tok} {rest : Str} (h : step s = some (some t, rest)) : P t := by
  -- the leaves of `step` in the order of its definition: the empty input, white space, a comment (no token); word, digit;
  -- string and punctuation, each with its failing arm
  revert h
  fun_cases step s <;> intro h <;> cases h
  · exact hw _ _ ‹_›
  · exact hd _ _ ‹_›
  · exact hs _ _ _ ‹_›
  · exact hp _ _ _ _ ‹_›

theorem lex_forall {P : Tok → Prop} (hP : ∀ s t rest, step s = some (some t, rest) → P t) :
    ∀ (f : Nat) (s : Str) (ts : List Tok), lexAux f s = some ts → ∀ t ∈ ts, P t := by
  intro f s
  fun_induction lexAux f s with
  | case1 => intro ts h; cases h; nofun
  | case2 => intro ts h; cases h
  | case3 f c cs hstep => intro ts h; cases h
  | case4 f c cs rest hstep ih => exact ih
  | case5 f c cs t rest hstep ih =>
    intro ts h
    simp only [Option.map_eq_some_iff] at h
    obtain ⟨ts', hts', rfl⟩ := h
    intro x hx
    rcases List.mem_cons.1 hx with rfl | hx
    · exact hP _ _ _ hstep
    · exact ih _ hts' x hx

end

end Reval

-- `Reval.LexC` from here on; the lemmas above characterise model definitions
namespace Reval.LexC

open Reval Reval.Lex

/-- for every fuel from `|s| + 1` on: a step costs one unit of fuel and may eat many characters, so only this form
    composes, not `lex s = some ts` -/
def Lexes (s : Str) (ts : List Tok) : Prop := ∀ f, s.length + 1 ≤ f → lexAux f s = some ts

theorem Lexes.nil : Lexes [] [] := fun f _ => lexAux_nil f

theorem Lexes.lex {s : Str} {ts : List Tok} (h : Lexes s ts) : lex s = some ts := h _ (Nat.le_refl _)

theorem Lexes.tok {w r : Str} {t : Tok} {T : List Tok} (hw : w ≠ []) (hs : step (w ++ r) = some (some t, r))
    (h : Lexes r T) : Lexes (w ++ r) (t :: T) := by
  intro f hf
  have := List.length_pos_iff.mpr hw
  cases f with
  | zero => simp at hf
  | succ f => rw [lexAux_succ_tok f hs, h f (by simp at hf; omega)]; rfl

theorem Lexes.skip {s s' : Str} {T : List Tok} (hs : step s = some (none, s')) (hlen : s'.length < s.length)
    (h : Lexes s' T) : Lexes s T := by
  intro f hf
  cases f with
  | zero => simp at hf
  | succ f => rw [lexAux_succ_skip f hs]; exact h f (by omega)

end Reval.LexC
