/-
  Lemmas/Cache.lean — the function cache (C11): it grows exactly by the invocations the log marks as
  cached (successful ones of cacheable functions: `callFn_cases`), its keys stay distinct, entries persist, failures and non-cacheable calls leave it alone.
-/
import RevalModel.Lemmas.Prog

namespace Reval

/-- the entries of the invoke events whose `cached` flag is set — `callFn` sets it exactly where it stores a result —,
    oldest first (the cache holds the most recent first: `Grows` reverses) -/
def cachedEntries : List Event → List ((Str × Value) × Value)
  | [] => []
  | .invoke f a _ (some v) true :: es => ((f, a), v) :: cachedEntries es
  | _ :: es => cachedEntries es

@[simp] theorem cachedEntries_append (a b : List Event) : cachedEntries (a ++ b) = cachedEntries a ++ cachedEntries b := by
  induction a with
  | nil => rfl
  | cons e es ih =>
    cases e with
    | reach => simp [cachedEntries, ih]
    | invoke f x i r c => cases r <;> cases c <;> simp [cachedEntries, ih]

theorem cacheGet_mem (c : List ((Str × Value) × Value)) (k : Str × Value) (v : Value) (h : cacheGet c k = some v) :
    (k, v) ∈ c := by
  fun_induction cacheGet c k <;> simp_all

theorem cacheGet_none_iff (c : List ((Str × Value) × Value)) (k : Str × Value) :
    cacheGet c k = none ↔ k ∉ c.map Prod.fst := by
  fun_induction cacheGet c k <;> simp_all [eq_comm]

theorem cacheGet_append_of_not_mem (n o : List ((Str × Value) × Value)) (k : Str × Value)
    (h : k ∉ n.map Prod.fst) : cacheGet (n ++ o) k = cacheGet o k := by
  induction n with
  | nil => rfl
  | cons kv rest ih =>
    simp only [List.map_cons, List.mem_cons, not_or] at h
    simp only [List.cons_append, cacheGet, if_neg (Ne.symm h.1), ih h.2]

/-- a computation took `st` to `st'` emitting `ev`: the cache grew by exactly the cached invocations, under keys that are
    distinct and were not in the cache before -/
def Grows (st st' : St) (ev : List Event) : Prop :=
  st'.cache = (cachedEntries ev).reverse ++ st.cache ∧ ((cachedEntries ev).map Prod.fst).Nodup ∧
  ∀ k ∈ (cachedEntries ev).map Prod.fst, k ∉ st.cache.map Prod.fst

theorem Grows.refl (st : St) : Grows st st [] := ⟨rfl, .nil, nofun⟩

theorem Grows.trans {st st1 st2 : St} {ev ev2 : List Event} (h : Grows st st1 ev) (h' : Grows st1 st2 ev2) :
    Grows st st2 (ev ++ ev2) := by
  -- what the second part stored was not in the cache the first part left: neither stored by it nor there before
  have hd : ∀ k ∈ (cachedEntries ev2).map Prod.fst, k ∉ (cachedEntries ev).map Prod.fst ∧ k ∉ st.cache.map Prod.fst := by
    intro k hk
    have := h'.2.2 k hk
    rw [h.1, List.map_append, List.mem_append, List.map_reverse, List.mem_reverse, not_or] at this
    exact this
  simp only [Grows, cachedEntries_append, List.reverse_append, List.append_assoc, List.map_append, List.mem_append, h'.1, h.1]
  exact ⟨trivial, List.nodup_append.2 ⟨h.2.1, h'.2.1, fun a ha b hb hab => (hd b hb).1 (hab ▸ ha)⟩,
    fun k hk => hk.elim (h.2.2 k) fun hk => (hd k hk).2⟩

theorem Grows.of_init {st' : St} {ev : List Event} (h : Grows St.init st' ev) :
    st'.cache = (cachedEntries ev).reverse ∧ ((cachedEntries ev).map Prod.fst).Nodup :=
  ⟨h.1.trans (List.append_nil _), h.2.1⟩

theorem Grows.persist {st st' : St} {ev : List Event} (hg : Grows st st' ev) (k : Str × Value) (v : Value)
    (h : cacheGet st.cache k = some v) : cacheGet st'.cache k = some v := by
  rw [hg.1, cacheGet_append_of_not_mem _ _ k, h]
  rw [List.map_reverse, List.mem_reverse]
  exact fun hk => hg.2.2 k hk (List.mem_map.2 ⟨(k, v), cacheGet_mem _ k v h, rfl⟩)

theorem callFn_grows (env : Env) (f : Str) (a : Value) (st : St) :
    Grows st (callFn env f a st).2.1 (callFn env f a st).2.2 := by
  apply callFn_cases (Q := fun o => Grows st o.2.1 o.2.2)
  case stored =>
    exact fun _ _ _ _ hmiss _ => ⟨rfl, List.pairwise_singleton _ _, fun k hk => List.mem_singleton.1 hk ▸ (cacheGet_none_iff _ _).1 hmiss⟩
  -- the other outcomes store nothing
  all_goals intros; exact .refl st
theorem Prog.run_grows (env : Env) {α : Type} (p : Prog α) (st : St) : Grows st (p.run env st).2.1 (p.run env st).2.2 := by
  induction p generalizing st with
  | ret r => exact .refl st
  | seq m f ihm ihf =>
    exact Prog.run_seq_cases (Q := fun o => Grows st o.2.1 o.2.2) (fun _ _ => (ihm st).trans (ihf _ _)) fun _ _ _ _ => ihm st
  | call rp f v => exact callFn_grows env f v st

theorem eval_grows (env : Env) (rp : List Nat) (e : Expr) (st : St) :
    Grows st (eval env rp e st).2.1 (eval env rp e st).2.2 :=
  eval_eq_run env rp e ▸ Prog.run_grows env _ st

theorem evalRules_grows (env : Env) : ∀ (rules : List Expr) (i : Nat) (st : St),
    Grows st (evalRules env i rules st).2.1 (evalRules env i rules st).2.2
  | [], _, st => .refl st
  | e :: es, i, st => (eval_grows env [i] e st).trans (evalRules_grows env es (i + 1) _)

end Reval
