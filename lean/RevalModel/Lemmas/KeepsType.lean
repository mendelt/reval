/-
  Lemmas/KeepsType.lean — "only the explicit cast functions change a value's type": what the operators other than the
  casts, constructors and calendar accessors return is a Bool, None, or a value of the type of their (left) operand; the
  one exception is DateTime − DateTime = Duration.
-/
import RevalModel.Lemmas.Table
import RevalModel.Lemmas.Outcome

namespace Reval

/-- the return type of the library function behind an oracle primitive (rust_decimal / std / chrono) -/
def FOp.resultTy : FOp → Option Ty
  | .decAdd | .decSub | .decMul | .decDiv | .decRem | .decFloor | .decRound | .decFract | .f64ToDec | .strToDec => some .dec
  | .decToF64 | .strToF64 => some .float
  | .strToDateTime => some .dateTime
  | .strUpper | .strLower | .f64Show => some .str
  | .xidStart | .xidContinue => some .bool

/-- every answer of the library oracle has the type of the primitive it answers for -/
def Oracle.Typed (o : Oracle) : Prop := ∀ op args v, o op args = some (some v) → some v.ty = op.resultTy

/-- the operators that are not casts, constructors or accessors -/
def UnOp.keepsType : UnOp → Bool
  | .not | .neg | .some | .isNone | .upper | .lower | .trim | .round | .floor | .fract => true
  | _ => false

abbrev BoolOr (t : Ty) (r : Value) : Prop := r.ty = .bool ∨ r.ty = t

/-- the literal conclusion of `applyBin_keeps_type` about a result `r` -/
abbrev BinKeeps (op : BinOp) (a b r : Value) : Prop :=
  r.ty = .bool ∨ r.ty = .none ∨ r.ty = a.ty ∨ (op = .sub ∧ a.ty = .dateTime ∧ b.ty = .dateTime ∧ r.ty = .duration)

theorem BoolOr.binKeeps {op : BinOp} {a b r : Value} (h : BoolOr a.ty r) : BinKeeps op a b r :=
  h.elim .inl fun h => .inr (.inr (.inl h))

theorem intCell_ty (op : BinOp) (a b : Int) : (intCell op a b).All (BoolOr .int) := by
  cases op
  case add | sub | mult | div | rem => exact ofOpt_all fun _ _ => .inr rfl
  case bitAnd | bitOr | bitXor => exact .inr rfl
  all_goals exact .inl rfl

theorem floatCell_ty (op : BinOp) (a b : F64) : (floatCell op a b).All (BoolOr .float) := by
  cases op
  case add | sub | mult | div | rem => exact .inr rfl
  case gt | gte | lt | lte => exact .inl rfl
  all_goals trivial

section
variable {o : Oracle} (ho : o.Typed)
include ho

theorem ask_typed {op : FOp} {t : Ty} (hop : op.resultTy = some t) (args : List Value) {onFail : Res Value}
    {P : Value → Prop} (hP : ∀ v, v.ty = t → P v) (hf : onFail.All P) : (o.ask op args onFail).All P :=
  ask_all (fun v hv => hP v (Option.some.inj ((ho _ _ _ hv).trans hop))) hf

theorem decOut_typed {op : FOp} (hop : op.resultTy = some .dec) (args : List Value) (e : Err) (x : Dec.Out)
    {P : Value → Prop} (hP : ∀ v, v.ty = .dec → P v) : (Impl.decOut o op args e x).All P :=
  decOut_all (fun v hv => hP v (Option.some.inj ((ho _ _ _ hv).trans hop))) fun _ _ => hP _ rfl

theorem decCell_ty (op : BinOp) (a b : Dec) : (decCell o op a b).All (BoolOr .dec) := by
  cases op
  case add | sub | mult => exact decOut_typed ho rfl _ _ _ fun _ => .inr
  case div | rem => exact .ite (fun _ => trivial) fun _ => ask_typed ho rfl _ (fun _ => .inr) trivial
  case gt | gte | lt | lte => exact .inl rfl
  all_goals trivial

theorem cellBin_keeps_type (op : BinOp) (a b : Value) : (cellBin o op a b).All (BinKeeps op a b) := by
  unfold cellBin
  split
  · exact (intCell_ty op _ _).imp fun _ => BoolOr.binKeeps  -- Int, Int
  · exact (floatCell_ty op _ _).imp fun _ => BoolOr.binKeeps  -- Float, Float
  · exact (decCell_ty ho op _ _).imp fun _ => BoolOr.binKeeps  -- Decimal, Decimal
  · cases op <;> first | exact .inl rfl | exact trivial  -- Bool, Bool
  · split <;> first | exact .ite (fun _ => .inr (.inr (.inl rfl))) fun _ => trivial | trivial  -- DateTime, Duration
  · split <;> first | exact .inr (.inr (.inr ⟨rfl, rfl, rfl, rfl⟩)) | exact .inl rfl  -- DateTime, DateTime
  · split <;> first | exact .ite (fun _ => .inr (.inr (.inl rfl))) fun _ => trivial | exact .inl rfl  -- Duration, Duration
  -- membership is a Bool; no other pair of operand types has a cell
  all_goals first | exact .inl rfl | exact trivial

theorem cellUn_keeps_type {op : UnOp} (hk : op.keepsType = true) (v : Value) :
    (cellUn o op v).All fun r => r.ty = .bool ∨ r.ty = .none ∨ r.ty = v.ty := by
  cases op <;> first | exact Bool.noConfusion hk | skip
  case some | isNone => cases v <;> exact .inl rfl
  all_goals cases v
  case not.bool => exact .inl rfl
  case neg.int => exact ofOpt_all fun _ _ => .inr (.inr rfl)
  case upper.str | lower.str =>
    exact .ite (fun _ => .inr (.inr rfl)) fun _ => ask_typed ho rfl _ (fun _ h => .inr (.inr h)) trivial
  case round.dec | floor.dec | fract.dec => exact decOut_typed ho rfl _ _ _ fun _ h => .inr (.inr h)
  case neg.float | neg.dec | trim.str | round.float | floor.float | fract.float => exact .inr (.inr rfl)
  all_goals exact trivial
end

theorem applyUn_keeps_type {o : Oracle} (ho : o.Typed) {op : UnOp} {v r : Value} (hk : op.keepsType = true)
    (h : applyUn o op v = .ok r) : r.ty = .bool ∨ r.ty = .none ∨ r.ty = v.ty :=
  (applyUn_cases (Q := (·.All _)) (cellUn_keeps_type ho hk v) (.inr (.inl rfl)) trivial).of_eq h

theorem applyBin_keeps_type {o : Oracle} (ho : o.Typed) {op : BinOp} {a b r : Value}
    (h : applyBin o op a b = .ok r) :
    r.ty = .bool ∨ r.ty = .none ∨ r.ty = a.ty ∨
    (op = .sub ∧ a.ty = .dateTime ∧ b.ty = .dateTime ∧ r.ty = .duration) :=
  (applyBin_cases (Q := (·.All _)) (cellBin_keeps_type ho op a b) (.inr (.inl rfl)) (.inl rfl) trivial).of_eq h

end Reval
