/-
  Lemmas/Sorted.lean — association lists as `BTreeMap`s: `lookup` (get), `insertSorted` (insert) and runs of inserts,
  the key order `Str.lt` (the lexicographic order of the code points, a strict total order by core's `List` lemmas)
  and `KeysSorted`.
-/
import RevalModel.Prim.Basic

namespace Reval

theorem lookup_mem {α} (m : List (Str × α)) (k : Str) (v : α) (h : lookup m k = some v) : (k, v) ∈ m := by
  fun_induction lookup m k <;> simp_all

theorem lookup_none_iff {α} (m : List (Str × α)) (k : Str) : lookup m k = none ↔ k ∉ m.map Prod.fst := by
  fun_induction lookup m k <;> simp_all [eq_comm]

theorem lookup_map_snd {α β} (g : Str → α → β) (m : List (Str × α)) (k : Str) :
    lookup (m.map (fun p => (p.1, g p.1 p.2))) k = (lookup m k).map (g k) := by
  fun_induction lookup m k <;> simp_all [lookup]

theorem lookup_of_mem_nodup {α} (m : List (Str × α)) (k : Str) (v : α)
    (hn : (m.map Prod.fst).Nodup) (h : (k, v) ∈ m) : lookup m k = some v := by
  fun_induction lookup m k <;> simp_all
  rename_i hne ih
  exact ih (h.resolve_left fun e => hne e.1.symm)

theorem lookup_exact {α} (m : List (Str × α)) (k : Str) (v : α) (hn : (m.map Prod.fst).Nodup) :
    lookup m k = some v ↔ (k, v) ∈ m :=
  ⟨lookup_mem m k v, lookup_of_mem_nodup m k v hn⟩

theorem lookup_insertSorted {α} (k k' : Str) (v : α) (m : List (Str × α)) :
    lookup (insertSorted k v m) k' = if k = k' then some v else lookup m k' := by
  fun_induction insertSorted k v m <;> simp_all [lookup] <;> split <;> simp_all

theorem lookup_insertSorted_self {α} (k : Str) (v : α) (m : List (Str × α)) :
    lookup (insertSorted k v m) k = some v := by
  rw [lookup_insertSorted, if_pos rfl]

theorem lookup_insertSorted_other {α} (k k' : Str) (v : α) (m : List (Str × α)) (h : k' ≠ k) :
    lookup (insertSorted k v m) k' = lookup m k' := by
  rw [lookup_insertSorted, if_neg h.symm]

theorem Str.lt_iff (a b : Str) : Str.lt a b = true ↔ a < b := by
  have hlt : ∀ a b : Char, a < b ↔ a.toNat < b.toNat := fun a b => by rw [Char.lt_def, UInt32.lt_iff_toNat_lt]; rfl
  fun_induction Str.lt a b
  case case4 h => simp [List.cons_lt_cons_iff, hlt, h]
  case case5 h _ => simp [List.cons_lt_cons_iff, hlt, ← Char.toNat_inj]; omega
  case case6 a _ b _ h1 h2 ih =>
    have : a.toNat = b.toNat := by omega
    simp [List.cons_lt_cons_iff, hlt, ← Char.toNat_inj, ih, this]
  all_goals simp

theorem Str.lt_irrefl (a : Str) : Str.lt a a = false :=
  Bool.eq_false_iff.2 fun h => List.lt_irrefl a ((Str.lt_iff a a).1 h)

theorem Str.lt_asymm (a b : Str) (h : Str.lt a b = true) : Str.lt b a = false :=
  Bool.eq_false_iff.2 fun h' => List.lt_asymm ((Str.lt_iff a b).1 h) ((Str.lt_iff b a).1 h')

theorem Str.lt_trans (a b c : Str) (h1 : Str.lt a b = true) (h2 : Str.lt b c = true) : Str.lt a c = true :=
  (Str.lt_iff a c).2 (List.lt_trans ((Str.lt_iff a b).1 h1) ((Str.lt_iff b c).1 h2))

theorem Str.lt_total (a b : Str) (hne : a ≠ b) (h : Str.lt a b = false) : Str.lt b a = true :=
  (Str.lt_iff b a).2 ((List.le_iff_lt_or_eq.1 (mt (Str.lt_iff a b).2 (Bool.eq_false_iff.1 h))).resolve_right (Ne.symm hne))

/-- keys strictly increasing: the notion every theorem uses (`SortedKeys` of Prim/Basic.lean, on adjacent pairs, is used by
    nothing); `Pairwise`, for core's `List.pairwise_*` lemmas -/
def KeysSorted {α} (m : List (Str × α)) : Prop := m.Pairwise (fun a b => Str.lt a.1 b.1 = true)

theorem mem_insertSorted {α} (k : Str) (v : α) (m : List (Str × α)) (x : Str × α) (h : x ∈ insertSorted k v m) :
    x = (k, v) ∨ x ∈ m := by
  fun_induction insertSorted k v m <;> simp_all
  · exact h.imp_right Or.inr
  · rcases h with h | h
    · exact Or.inr (Or.inl h)
    · rename_i ih; exact (ih h).imp_right Or.inr

theorem keysSorted_insert {α} (k : Str) (v : α) (m : List (Str × α)) (h : KeysSorted m) : KeysSorted (insertSorted k v m) := by
  unfold KeysSorted at *
  fun_induction insertSorted k v m
  · simp
  · simpa using h
  · rename_i k' v' rest _ hlt
    exact List.pairwise_cons.2 ⟨fun x hx => (List.mem_cons.1 hx).elim (· ▸ hlt)
      (fun hx => Str.lt_trans _ _ _ hlt ((List.pairwise_cons.1 h).1 x hx)), h⟩
  · rename_i k' v' rest hne hnlt ih
    rw [List.pairwise_cons] at h ⊢
    refine ⟨fun x hx => ?_, ih h.2⟩
    rcases mem_insertSorted k v rest x hx with rfl | hx
    · exact Str.lt_total k k' hne (by simpa using hnlt)
    · exact h.1 x hx

theorem keysSorted_nodup {α} (m : List (Str × α)) (h : KeysSorted m) : (m.map Prod.fst).Nodup := by
  unfold KeysSorted at h
  rw [List.Nodup, List.pairwise_map]
  exact h.imp (fun {a b} hab e => by rw [e, Str.lt_irrefl] at hab; cases hab)

theorem keysSorted_map {α β} (f : α → β) (kvs : List (Str × α)) (h : KeysSorted kvs) :
    KeysSorted (kvs.map (fun kv => (kv.1, f kv.2))) := by
  unfold KeysSorted at *
  rw [List.pairwise_map]
  exact h

theorem insertSorted_append {α} (k : Str) (v : α) (acc : List (Str × α)) (h : ∀ x ∈ acc, Str.lt x.1 k = true) :
    insertSorted k v acc = acc ++ [(k, v)] := by
  fun_induction insertSorted k v acc
  · rfl
  · simp [Str.lt_irrefl] at h
  · rename_i k' v' rest _ hlt
    have := Str.lt_asymm _ _ (h (k', v') (by simp)); simp_all
  · rename_i ih; rw [ih (fun x hx => h x (List.mem_cons_of_mem _ hx))]; rfl

theorem foldl_insert_eq_append {α} (m acc : List (Str × α)) (h : KeysSorted (acc ++ m)) :
    m.foldl (fun a kv => insertSorted kv.1 kv.2 a) acc = acc ++ m := by
  induction m generalizing acc with
  | nil => simp
  | cons kv m ih =>
    simp only [List.foldl_cons]
    have hall : ∀ x ∈ acc, Str.lt x.1 kv.1 = true := by
      intro x hx
      unfold KeysSorted at h
      rw [List.pairwise_append] at h
      exact h.2.2 x hx kv List.mem_cons_self
    rw [insertSorted_append kv.1 kv.2 acc hall]
    have : acc ++ [(kv.1, kv.2)] ++ m = acc ++ kv :: m := by simp
    rw [ih _ (by rw [this]; exact h), this]

theorem keysSorted_foldl {α} (m acc : List (Str × α)) (h : KeysSorted acc) :
    KeysSorted (m.foldl (fun a kv => insertSorted kv.1 kv.2 a) acc) := by
  induction m generalizing acc with
  | nil => exact h
  | cons kv m ih => exact ih _ (keysSorted_insert kv.1 kv.2 acc h)

theorem mem_foldl_insert {α} (m acc : List (Str × α)) (x : Str × α)
    (h : x ∈ m.foldl (fun a kv => insertSorted kv.1 kv.2 a) acc) : x ∈ acc ∨ x ∈ m := by
  induction m generalizing acc with
  | nil => exact Or.inl h
  | cons kv m ih =>
    rcases ih _ h with h | h
    · rcases mem_insertSorted _ _ _ _ h with rfl | h
      · exact Or.inr List.mem_cons_self
      · exact Or.inl h
    · exact Or.inr (List.mem_cons_of_mem _ h)

/-- looking up `k` after a run of `BTreeMap::insert`s: the last entry written under `k`, else what was there before -/
theorem lookup_foldl_insert {α} (t m : List (Str × α)) (k : Str) :
    lookup (t.foldl (fun m kv => insertSorted kv.1 kv.2 m) m) k =
      ((t.reverse.find? (fun kv => kv.1 = k)).map (·.2)).or (lookup m k) := by
  induction t generalizing m with
  | nil => simp
  | cons kv t ih =>
    rw [List.foldl_cons, ih, List.reverse_cons, List.find?_append, lookup_insertSorted]
    cases t.reverse.find? (fun kv => kv.1 = k) <;> by_cases hk : kv.1 = k <;> simp [hk]

end Reval
