/-
  Lemmas/GrammarTable.lean — the precedence table read off the parser's operator functions (`binOpAt` as the finite table
  `opTab`; the function keywords), and how a rendering moves between positions of the table.
-/
import RevalModel.Spec.Grammar

namespace Reval.G
open Reval

/-- `binOpAt` as a table: level, token, node -/
def opTab : List (Nat × Tok × (Expr → Expr → Expr)) :=
  [(1, .kw ['a', 'n', 'd'], .and), (1, .kw ['o', 'r'], .or),
   (2, .p ['='], mkEq .eq), (2, .p ['=', '='], mkEq .eq), (2, .p ['!', '='], mkEq .neq), (2, .p ['>'], mkEq .gt),
   (2, .p ['<'], mkEq .lt), (2, .p ['>', '='], mkEq .gte), (2, .p ['<', '='], mkEq .lte),
   (3, .p ['+'], .bin .add), (3, .p ['-'], .bin .sub),
   (4, .p ['*'], .bin .mult), (4, .p ['/'], .bin .div), (4, .p ['%'], .bin .rem),
   (5, .p ['&'], .bin .bitAnd), (5, .p ['|'], .bin .bitOr), (5, .p ['^'], .bin .bitXor)]

variable {k : Nat} {t : Tok} {mk : Expr → Expr → Expr}

theorem opTab_sound : ∀ e ∈ opTab, binOpAt e.1 e.2.1 = some e.2.2 := by
  simp only [opTab, List.forall_mem_cons]
  exact ⟨rfl, rfl, rfl, rfl, rfl, rfl, rfl, rfl, rfl, rfl, rfl, rfl, rfl, rfl, rfl, rfl, rfl, nofun⟩

/- outside the table: with the negated conditions the `if` chains rewrite all at once (`split` on
   `if s = ['='] then …` simplifies the rest of the chain in its positive branch, at every link: far dearer) -/
theorem binOpAt_none (h : (k, t) ∉ opTab.map fun e => (e.1, e.2.1)) : binOpAt k t = none := by
  unfold binOpAt
  split <;> first | rfl | (simp [opTab] at h; simp [eqOpOf, addOpOf, multOpOf, bitOpOf, h])

theorem binOpAt_mem (h : binOpAt k t = some mk) : (k, t, mk) ∈ opTab := by
  by_cases hm : (k, t) ∈ opTab.map fun e => (e.1, e.2.1)
  · obtain ⟨e, he, heq⟩ := List.mem_map.1 hm
    cases heq
    have := opTab_sound e he
    rw [h] at this; cases this; exact he
  · rw [binOpAt_none hm] at h; cases h

/-- per row: the token has no other level (for `binOpAt_other`), the level is in 1 … 5 (`binOpAt_range`), the token is none of
    `.` `contains` `in` `(` (`binOpAt_folTok`) -/
theorem opTab_toks : ∀ p ∈ opTab, (∀ q ∈ opTab, q.2.1 = p.2.1 → q.1 = p.1) ∧
    1 ≤ p.1 ∧ p.1 ≤ 5 ∧ p.2.1 ≠ dot ∧ p.2.1 ≠ kwContains ∧ p.2.1 ≠ kwIn ∧ p.2.1 ≠ lp := by decide

theorem opTab_lvl : ∀ p ∈ opTab, ∀ l r, lvl (p.2.2 l r) = p.1 := by
  simp only [opTab, List.forall_mem_cons]
  repeat' apply And.intro
  all_goals first | exact fun _ _ => rfl | nofun

theorem binOpAt_other (h : binOpAt k t = some mk) :
    ∀ j, j ≠ k → binOpAt j t = none := by
  intro j hj
  cases h' : binOpAt j t with
  | none => rfl
  | some mk' => exact absurd ((opTab_toks _ (binOpAt_mem h)).1 _ (binOpAt_mem h') rfl) hj

theorem binOpAt_range (h : binOpAt k t = some mk) : 1 ≤ k ∧ k ≤ 5 :=
  have ⟨_, h1, h5, _⟩ := opTab_toks _ (binOpAt_mem h)
  ⟨h1, h5⟩

theorem binOpAt_lvl (h : binOpAt k t = some mk) (l r : Expr) :
    lvl (mk l r) = k := opTab_lvl _ (binOpAt_mem h) l r

theorem binOpAt_gt5 {j : Nat} {t : Tok} (h : 5 < j) : binOpAt j t = none := by
  cases h' : binOpAt j t with
  | none => rfl
  | some mk => exact absurd (binOpAt_range h').2 (by omega)

theorem binOpAt_notin {c : Tok} (h : ∀ p ∈ opTab, p.2.1 ≠ c) (j : Nat) : binOpAt j c = none := by
  cases h' : binOpAt j c with
  | none => rfl
  | some mk => exact absurd rfl (h _ (binOpAt_mem h'))

/-- by the shape of `binOpAt` alone: nothing here depends on the spelling of the operators -/
theorem binOpAt_mk (h : binOpAt k t = some mk) :
    mk = Expr.and ∨ mk = Expr.or ∨ mk = Expr.eq ∨ mk = Expr.neq ∨ ∃ op, mk = Expr.bin op := by
  have bin : ∀ {x : Option BinOp}, x.map (fun o => Expr.bin o) = some mk → ∃ op, mk = Expr.bin op :=
    fun h => let ⟨op, _, e⟩ := Option.map_eq_some_iff.1 h; ⟨op, e.symm⟩
  unfold binOpAt at h
  split at h
  · split at h
    · exact .inl (Option.some.inj h).symm
    · split at h
      · exact .inr (.inl (Option.some.inj h).symm)
      · cases h
  · obtain ⟨op, _, rfl⟩ := Option.map_eq_some_iff.1 h
    cases op
    · exact .inr (.inr (.inl rfl))
    · exact .inr (.inr (.inr (.inl rfl)))
    all_goals exact .inr (.inr (.inr (.inr ⟨_, rfl⟩)))
  · exact .inr (.inr (.inr (.inr (bin h))))
  · exact .inr (.inr (.inr (.inr (bin h))))
  · exact .inr (.inr (.inr (.inr (bin h))))
  · cases h

/-! ### the function keywords -/

theorem ite_some_ne {α : Type} {c : Prop} [Decidable c] {a x : α} {rest : Option α} (h1 : a ≠ x) (h2 : rest ≠ some x) :
    (if c then some a else rest) ≠ some x := by
  split
  · intro h; exact h1 (Option.some.inj h)
  · exact h2

theorem funcOfKw_ne (k : Str) : funcOfKw k ≠ some .neg ∧ funcOfKw k ≠ some .not := by
  unfold funcOfKw
  constructor
  · repeat (refine ite_some_ne (by simp) ?_)
    simp
  · repeat (refine ite_some_ne (by simp) ?_)
    simp

/- only `.neg` and `.not` have level 7, and `funcOfKw_ne` excludes them -/
theorem lvl_func {k : Str} {op : UnOp} (hk : funcOfKw k = some op) (e : Expr) : lvl (.un op e) = 9 := by
  have := funcOfKw_ne k
  cases op <;> first | rfl | simp_all

/-! ### renderings across positions of the table -/

theorem R.own {o : Oracle} {e : Expr} {T : List Tok} (h : Body o e T) : R o (lvl e) e T := R.bare _ e T (Nat.le_refl _) h

theorem R.weaken {o : Oracle} {k j : Nat} {e : Expr} {T : List Tok} (h : R o k e T) (hj : j ≤ k) : R o j e T := by
  cases h with
  | bare _ _ _ hl hbody => exact R.bare j e T (by omega) hbody
  | paren _ _ T h => exact R.paren j e T h

theorem R.bin {o : Oracle} {k m : Nat} {t : Tok} {mk : Expr → Expr → Expr} {l r : Expr} {Tl Tr : List Tok}
    (hop : binOpAt k t = some mk) (hm : m ≤ k) (hl : R o k l Tl) (hr : R o (k + 1) r Tr) : R o m (mk l r) (Tl ++ t :: Tr) :=
  R.bare m _ _ (by rw [binOpAt_lvl hop]; exact hm)
    (Body.bin k t mk l r Tl Tr (binOpAt_range hop).1 (binOpAt_range hop).2 hop hl hr)

end Reval.G
