/-
  Lemmas/Outcome.lean — one predicate on outcomes: `Res.All P r`, "`r` is no panic, and if it is a value, the value
  satisfies `P`".  The range and type theorems say it of the cells of the operator table, of evaluation and of the
  serializer; the lemmas here carry it through the combinators those are built from (`Res.map`, `if`, `ofOpt`,
  `Oracle.ask`, `Impl.decOut`).
-/
import RevalModel.Spec.OperatorTable

namespace Reval

/-- `.panic` is `False`: the model of the evaluator and of the serializer has no panic site of its own, so "never a panic" is
    part of every statement about outcomes and needs no walk of its own.  A statement `r.All fun v => H → P v` then reads
    two ways: at `H := True` it is about the value; at `H := False` it says "no panic" alone (`Res.All.noPanic`) and asks
    for none of the hypotheses that stand behind `H`. -/
def Res.All {α} (P : α → Prop) : Res α → Prop
  | .ok a => P a
  | .panic _ => False
  | _ => True

theorem Res.isPanic_map {α β} (f : α → β) (r : Res α) : (r.map f).isPanic = r.isPanic := by
  cases r <;> rfl

namespace Res.All
variable {α β : Type} {P : α → Prop}
@[simp] theorem ok (a : α) : (Res.ok a).All P ↔ P a := Iff.rfl
@[simp] theorem err (e : Err) : (Res.err e : Res α).All P := trivial
@[simp] theorem panic (s : Site) : ¬(Res.panic s : Res α).All P := id
theorem noPanic {r : Res α} (h : r.All P) : r.isPanic = false := by cases r <;> first | rfl | exact h.elim
@[simp] theorem frontier (op : FOp) (args : List Value) : (Res.frontier op args : Res α).All P := trivial
@[simp] theorem map {Q : β → Prop} (f : α → β) (r : Res α) : (r.map f).All Q ↔ r.All fun a => Q (f a) := by
  cases r <;> rfl
theorem of_eq {r : Res α} {a : α} (h : r.All P) (e : r = .ok a) : P a := by subst e; exact h
theorem ite {c : Prop} [Decidable c] {r s : Res α} (hr : c → r.All P) (hs : ¬c → s.All P) :
    (if c then r else s).All P := by split <;> simp_all
theorem imp {Q : α → Prop} {r : Res α} (h : ∀ a, P a → Q a) (hr : r.All P) : r.All Q := by
  cases r <;> first | exact h _ hr | exact hr
end Res.All

section
variable {P : Value → Prop} {o : Oracle}

theorem ofOpt_all {r : Option Int} {e : Err} {mk : Int → Value} (h : ∀ x, r = some x → P (mk x)) :
    (ofOpt r e mk).All P := by
  cases r <;> simp_all [ofOpt]

theorem ask_all {op : FOp} {args : List Value} {onFail : Res Value}
    (ho : ∀ v, o op args = some (some v) → P v) (hf : onFail.All P) : (o.ask op args onFail).All P := by
  unfold Oracle.ask; split <;> simp_all

theorem decOut_all {op : FOp} {args : List Value} {e : Err} {x : Dec.Out}
    (ho : ∀ v, o op args = some (some v) → P v) (hx : ∀ d, x = .val d → P (.dec d)) :
    (Impl.decOut o op args e x).All P := by
  cases x <;> simp_all [Impl.decOut, ask_all]
end

end Reval
