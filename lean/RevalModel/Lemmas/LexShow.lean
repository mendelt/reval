/-
  Lemmas/LexShow.lean — `lex (showExpr sf e) = some (dispToks sf e)`.  The combinators `lx_*` put one piece of printed text
  (a token of the vocabulary, a space, an operand) in front of a text that lexes; the induction over the printer walks over
  the printed text with them, the induction hypothesis `LexShow` carrying what follows the subexpression.
-/

import RevalModel.Lemmas.LexLayout

namespace Reval.LexC

open Reval Reval.Lex Reval.G Reval.Disp

variable {sf : F64 → Str}

/-- the punctuation `Display` writes that ends by itself, whatever follows -/
def closedChars : List Char := ['(', ')', '[', ']', '{', '}', ',', ':', '.', '-']

theorem lx_p1 {c : Char} {r : Str} {T : List Tok} (h : Lexes r T) (hc : c ∈ closedChars := by decide) :
    Lexes (c :: r) (.p [c] :: T) :=
  have k := (by decide : ∀ c ∈ closedChars, c ∈ p1Chars ∧ c ∉ ['=', '!', '>', '<'] ∧ c ≠ '/') c hc
  lx_tok (.p1 c k.1) (fun _ _ _ => ⟨fun h => absurd h k.2.1, fun h => absurd h k.2.2⟩) h

theorem lx_sp {r : Str} {T : List Tok} (hr : NoWhite r) (h : Lexes r T) : Lexes (' ' :: r) T :=
  Lexes.skip (step_space r hr) (Nat.lt_succ_self _) h

/-- a token in front of one of the characters the printer writes after a token (the space among them) -/
theorem lx_fol {t : Tok} {w r : Str} {c : Char} {T : List Tok} (h : PTok t w) (hT : Lexes (c :: r) T)
    (hc : c ∈ folChars := by decide) : Lexes (w ++ c :: r) (t :: T) :=
  lx_tok h ((fol_hd false r hc).ends t nofun) hT

theorem lx_ident {n r : Str} {T : List Tok} (hn : NameOK n) (dot : Bool) (hdot : dot = true → isLitPrefixName n = false)
    (hr : Fol dot r) (h : Lexes r T) : Lexes (n ++ r) (.ident n :: T) :=
  lx_tok (.ident n hn) (hr.ends _ fun hd => by simpa [DotSens, isLitPrefixName] using hdot hd) h

/-- `Fol (!needsParens e)`: an operand the printer parenthesises never stands directly before the `.` of an access, so it
    only has to end before `Fol false`; this is where the names `f`, `d` and float / decimal leaves escape the `f.5` merge.
    The first conjunct is what lets a space stand in front of the text (`LexShow.sp`). -/
def LexShow (sf : F64 → Str) (e : Expr) : Prop :=
  TextOK sf e → ∀ r, NoWhite (showExpr sf e ++ r) ∧
    ∀ T, Fol (!needsParens e) r → Lexes r T → Lexes (showExpr sf e ++ r) (dispToks sf e ++ T)

theorem LexShow.lexes {e : Expr} (ih : LexShow sf e) (he : TextOK sf e) {r : Str} {T : List Tok}
    (hr : Fol (!needsParens e) r) (h : Lexes r T) : Lexes (showExpr sf e ++ r) (dispToks sf e ++ T) := (ih he r).2 T hr h

theorem LexShow.sp {e : Expr} (ih : LexShow sf e) (he : TextOK sf e) {r : Str} {T : List Tok}
    (hr : Fol (!needsParens e) r) (h : Lexes r T) : Lexes (' ' :: (showExpr sf e ++ r)) (dispToks sf e ++ T) :=
  lx_sp (ih he r).1 (ih.lexes he hr h)

/-- the `Operand` wrapper, with the space in front of it or without -/
theorem lx_operand {e : Expr} (ih : LexShow sf e) (he : TextOK sf e) {r : Str} {T : List Tok}
    (hr : Fol true r) (h : Lexes r T) :
    NoWhite ((if needsParens e then '(' :: showExpr sf e ++ [')'] else showExpr sf e) ++ r) ∧
    Lexes ((if needsParens e then '(' :: showExpr sf e ++ [')'] else showExpr sf e) ++ r)
      ((if needsParens e then wrap (dispToks sf e) else dispToks sf e) ++ T) := by
  cases hnp : needsParens e
  · simp only [Bool.false_eq_true, if_false]
    exact ⟨(ih he r).1, ih.lexes he (by simpa [hnp] using hr) h⟩
  · simp only [if_true, wrap, lp, rp, List.cons_append, List.append_assoc, List.nil_append]
    exact ⟨noWhite_cons, lx_p1 (ih.lexes he (by simpa [hnp] using fol_hd false (c := ')') r) (lx_p1 h))⟩

/-! Each `lexShow_*`, `lexList_*`, `lexEntries_*` below has exactly the signature of one case of `dispToks.mutual_induct`;
`lexShow_all` passes them in its order (hence the unused hypothesis of `lexShow_contains`).  Each begins by unfolding the
printer (`showExpr`, with the string constants `s_*`) and ends with the pieces of the text in the order they are written. -/

theorem lexShow_lit (v : Value) : LexShow sf (.lit v) := by
  intro h r
  simp only [TextOK] at h
  simp only [showExpr, dispToks, List.cons_append, List.nil_append]
  have kw : ∀ w, w ∈ keywords → w ≠ ['f'] ∧ w ≠ ['d'] → ∀ T, Fol (!needsParens (.lit v)) r → Lexes r T →
      Lexes (w ++ r) (.kw w :: T) :=
    fun w hw hne T hr hT => lx_tok (.kw w (kwText_of_mem hw)) (hr.ends _ fun _ => not_or.2 hne) hT
  cases v
  case str s =>
    simp only [sv_str, litTok]
    exact ⟨noWhite_cons, fun T _ hT => lx_tok (.str s) trivial hT⟩
  case int i =>
    simp only [sv_int, litTok]
    exact ⟨noWhite_cons, fun T hr hT => lx_tok (.intg _ (intBody_showInt i)) (hr.ends _ fun _ => id) hT⟩
  case float f =>
    simp only [sv_float, litTok]
    exact ⟨noWhite_cons, fun T hr hT =>
      Lexes.tok (w := 'f' :: sf f) (by simp) (by simpa using h r (by simpa [needsParens] using hr)) hT⟩
  case dec d =>
    simp only [sv_dec, litTok]
    exact ⟨noWhite_cons, fun T hr hT =>
      lx_tok (.dec d) (Fol.ends (dot := false) (by simpa [needsParens] using hr) _ nofun) hT⟩
  case bool b =>
    cases b
    · simp only [sv_false, litTok]; exact ⟨noWhite_cons, kw _ (by decide) (by decide)⟩
    · simp only [sv_true, litTok]; exact ⟨noWhite_cons, kw _ (by decide) (by decide)⟩
  case none => simp only [sv_none, litTok]; exact ⟨noWhite_cons, kw _ (by decide) (by decide)⟩
  all_goals exact False.elim h

theorem lexShow_ref (n : Str) : LexShow sf (.ref n) := by
  intro h r
  simp only [TextOK] at h
  simp only [showExpr, dispToks, List.cons_append, List.nil_append]
  exact ⟨h.start r, fun T hr hT => lx_ident h _ (by simp [needsParens]) hr hT⟩

theorem lexShow_sym (n : Str) : LexShow sf (.sym n) := by
  intro h r
  simp only [TextOK] at h
  simp only [showExpr, dispToks, colon, List.cons_append, List.nil_append]
  exact ⟨noWhite_cons, fun T hr hT => lx_p1 (lx_ident h _ (by simp [needsParens]) hr hT)⟩

theorem lexShow_call (f : Str) (a : Expr) (iha : LexShow sf a) : LexShow sf (.call f a) := by
  intro h r
  simp only [TextOK] at h
  simp only [showExpr, paren, dispToks, lp, rp, List.append_assoc, List.cons_append, List.nil_append]
  refine ⟨h.1.start _, fun T _ hT => ?_⟩
  refine lx_fol (.ident _ h.1) ?_
  refine lx_p1 ?_
  refine iha.lexes h.2 (fol_hd _ _) ?_
  exact lx_p1 hT

/-- `-`, `!` and the 20 function keywords -/
theorem unTok_ptok (op : UnOp) : PTok (unTok op) (unKw op) := by
  cases op <;> first | exact .p1 _ (by decide) | exact .kw _ (kwText_of_mem (by decide))

theorem lexShow_un (op : UnOp) (e : Expr) (ih : LexShow sf e) : LexShow sf (.un op e) := by
  intro h r
  simp only [TextOK] at h
  rw [se_un]; simp only [dispToks, lp, rp, List.append_assoc, List.cons_append, List.nil_append]
  obtain ⟨c, w', hw, hc⟩ := (unTok_ptok op).head
  refine ⟨by rw [hw]; exact noWhite_cons hc, fun T _ hT => ?_⟩
  refine lx_fol (unTok_ptok op) ?_
  refine lx_p1 ?_
  refine ih.lexes h (fol_hd _ _) ?_
  exact lx_p1 hT

theorem lexShow_index (e : Expr) (i : Index) (ih : LexShow sf e) : LexShow sf (.index e i) := by
  intro h r
  have hte : TextOK sf e := by cases i <;> simp only [TextOK] at h <;> first | exact h.2 | exact h
  rw [se_index]
  refine ⟨noWhite_cons, fun T _ hT => ?_⟩
  simp only [dispToks, wrap, lp, rp, dot, List.append_assoc, List.cons_append, List.nil_append]
  refine lx_p1 ?_
  have key : Lexes ('.' :: (idxText i ++ ')' :: r)) (.p ['.'] :: idxTok i :: .p [')'] :: T) := by
    cases i with
    | key k =>
      simp only [TextOK] at h
      simp only [idxTok, idxText]
      refine lx_p1 ?_
      refine lx_fol (.ident _ h.1) ?_
      exact lx_p1 hT
    | pos n =>
      simp only [idxTok, idxText]
      obtain ⟨_, hall, hne⟩ := showNat_spec n
      obtain ⟨a, D, hD⟩ := List.exists_cons_of_ne_nil hne
      rw [hD] at hall ⊢
      simp only [List.all_cons, Bool.and_eq_true] at hall
      refine lx_p1 ?_
      refine lx_fol (.index a D hall.1 hall.2) ?_
      exact lx_p1 hT
  simpa [wrap, lp, rp, List.append_assoc] using (lx_operand (sf := sf) ih hte (r := '.' :: (idxText i ++ ')' :: r)) (fol_dot _) key).2

/-- `( l SP w SP r )`, `w` the text of one token: the shape of `and`, `or`, `==`, `!=`, the arithmetic and the comparison operators -/
theorem lexShow_infix {e l r' : Expr} {t : Tok} {w : Str} (ht : PTok t w)
    (hs : ∀ r, showExpr sf e ++ r = '(' :: (showExpr sf l ++ ' ' :: (w ++ ' ' :: (showExpr sf r' ++ ')' :: r))))
    (hd : dispToks sf e = wrap (dispToks sf l ++ t :: dispToks sf r')) (hok : TextOK sf e → TextOK sf l ∧ TextOK sf r')
    (ihl : LexShow sf l) (ihr : LexShow sf r') : LexShow sf e := by
  intro h r
  obtain ⟨hl, hr'⟩ := hok h
  obtain ⟨c, w', rfl, hc⟩ := PTok.head ht
  rw [hs, hd]
  refine ⟨noWhite_cons, fun T _ hT => ?_⟩
  simp only [wrap, lp, rp, List.append_assoc, List.cons_append, List.nil_append]
  refine lx_p1 ?_
  refine ihl.lexes hl (fol_hd _ _) ?_
  refine lx_sp (noWhite_cons hc) ?_
  refine lx_fol ht ?_
  refine ihr.sp hr' (fol_hd _ _) ?_
  exact lx_p1 hT

theorem lexShow_and (l r' : Expr) (ihl : LexShow sf l) (ihr : LexShow sf r') : LexShow sf (.and l r') :=
  lexShow_infix (.kw _ (kwText_of_mem (by decide))) (fun r => by simp [showExpr, paren, s_and]) rfl id ihl ihr

theorem lexShow_or (l r' : Expr) (ihl : LexShow sf l) (ihr : LexShow sf r') : LexShow sf (.or l r') :=
  lexShow_infix (.kw _ (kwText_of_mem (by decide))) (fun r => by simp [showExpr, paren, s_or]) rfl id ihl ihr

theorem lexShow_eq (l r' : Expr) (ihl : LexShow sf l) (ihr : LexShow sf r') : LexShow sf (.eq l r') :=
  lexShow_infix (.p2 '=' (by decide)) (fun r => by simp [showExpr, paren, s_eq]) rfl id ihl ihr

theorem lexShow_neq (l r' : Expr) (ihl : LexShow sf l) (ihr : LexShow sf r') : LexShow sf (.neq l r') :=
  lexShow_infix (.p2 '!' (by decide)) (fun r => by simp [showExpr, paren, s_neq]) rfl id ihl ihr

theorem lexShow_ite (c t e : Expr) (ihc : LexShow sf c) (iht : LexShow sf t) (ihe : LexShow sf e) :
    LexShow sf (.ite c t e) := by
  intro h r
  simp only [TextOK] at h
  simp only [showExpr, paren, s_if, s_then, s_else, dispToks, wrap, lp, rp, kwIf, kwThen, kwElse, List.append_assoc, List.cons_append, List.nil_append]
  refine ⟨noWhite_cons, fun T _ hT => ?_⟩
  refine lx_p1 ?_
  refine lx_fol (.kw ['i', 'f'] (kwText_of_mem (by decide))) ?_
  refine ihc.sp h.1 (fol_hd _ _) ?_
  refine lx_sp noWhite_cons ?_
  refine lx_fol (.kw ['t', 'h', 'e', 'n'] (kwText_of_mem (by decide))) ?_
  refine iht.sp h.2.1 (fol_hd _ _) ?_
  refine lx_sp noWhite_cons ?_
  refine lx_fol (.kw ['e', 'l', 's', 'e'] (kwText_of_mem (by decide))) ?_
  refine ihe.sp h.2.2 (fol_hd _ _) ?_
  exact lx_p1 hT

theorem binTok_ptok (op : BinOp) (hnc : op ≠ .contains) : PTok (binTok op) (tokText (binTok op)) := by
  cases op <;> first | exact absurd rfl hnc | exact .p1 _ (by decide) | exact .p2 _ (by decide)

theorem lexShow_bitwise (op : BinOp) (l r' : Expr) (hb : isBitwise op = true) (ihl : LexShow sf l) (ihr : LexShow sf r') :
    LexShow sf (.bin op l r') := by
  intro h r
  simp only [TextOK] at h
  have hnc : op ≠ .contains := by intro e; subst e; simp [isBitwise] at hb
  rw [se_bin]; simp only [dispToks, hb, if_true, List.append_assoc, List.cons_append, List.nil_append]
  refine ⟨(ihl h.1 _).1, fun T hr hT => ?_⟩
  have hr0 : Fol false r := by simpa [needsParens, hb] using hr
  refine ihl.lexes h.1 (fol_hd _ _) ?_
  obtain ⟨c, w', hw, hc⟩ := PTok.head (binTok_ptok op hnc)
  refine lx_sp (by rw [hw]; exact noWhite_cons hc) ?_
  have ⟨h1, h2⟩ := lx_operand ihr h.2 (hr0.mono _) hT
  exact lx_fol (binTok_ptok op hnc) (lx_sp h1 h2)

theorem lexShow_contains (l r' : Expr) (_ : ¬ isBitwise .contains = true) (ihl : LexShow sf l) (ihr : LexShow sf r') :
    LexShow sf (.bin .contains l r') := by
  intro h r
  simp only [TextOK] at h
  rw [se_bin]
  simp only [dispToks, isBitwise, Bool.false_eq_true, if_false, if_true, wrap, lp, rp, kwContains, List.append_assoc, List.cons_append, List.nil_append]
  refine ⟨noWhite_cons, fun T _ hT => ?_⟩
  have ⟨h1, h2⟩ := lx_operand ihr h.2 (fol_hd true (c := ')') r) (lx_p1 hT)
  refine lx_p1 ?_
  refine (lx_operand ihl h.1 (fol_hd true _) ?_).2
  refine lx_sp noWhite_cons ?_
  refine lx_fol (.kw ['c', 'o', 'n', 't', 'a', 'i', 'n', 's'] (kwText_of_mem (by decide))) ?_
  exact lx_sp h1 h2

theorem lexShow_binop (op : BinOp) (l r' : Expr) (hb : ¬ isBitwise op = true) (hnc : ¬ op = .contains)
    (ihl : LexShow sf l) (ihr : LexShow sf r') : LexShow sf (.bin op l r') :=
  lexShow_infix (binTok_ptok op hnc) (fun r => by simp [se_bin, hb, hnc]) (by simp only [dispToks, hb, hnc, Bool.false_eq_true, if_false])
    (fun h => by simpa only [TextOK] using h) ihl ihr

/-- the second conjunct: `lx_sp` after `", "` needs the start of the remaining items, for the empty tail the closing bracket
    (likewise `LexEntries`) -/
def LexList (sf : F64 → Str) (xs : List Expr) : Prop :=
  TextOKL sf xs → ∀ r T, Lexes r T →
    Lexes (joinSep [',', ' '] (showExprs sf xs) ++ ']' :: r) (dispList sf xs ++ T) ∧
    NoWhite (joinSep [',', ' '] (showExprs sf xs) ++ ']' :: r)

def LexEntries (sf : F64 → Str) (kvs : List (Str × Expr)) : Prop :=
  TextOKM sf kvs → ∀ r T, Lexes r T →
    Lexes (joinSep [',', ' '] (showEntries sf kvs) ++ '}' :: r) (dispEntries sf kvs ++ T) ∧
    NoWhite (joinSep [',', ' '] (showEntries sf kvs) ++ '}' :: r)

theorem lexList_nil : LexList sf [] := by
  intro _ r T hT
  simp only [ses_nil, js_nil, dispList, List.nil_append, List.cons_append]
  exact ⟨lx_p1 hT, noWhite_cons⟩

theorem lexList_one (e : Expr) (ih : LexShow sf e) : LexList sf [e] := by
  intro h r T hT
  simp only [TextOKL] at h
  simp only [ses_cons, ses_nil, js_one, dispList, List.append_assoc, List.cons_append, List.nil_append]
  exact ⟨ih.lexes h.1 (fol_hd _ _) (lx_p1 hT), (ih h.1 _).1⟩

theorem lexList_cons (e e2 : Expr) (es : List Expr) (ih : LexShow sf e) (ihs : LexList sf (e2 :: es)) :
    LexList sf (e :: e2 :: es) := by
  intro h r T hT
  rw [TextOKL] at h
  obtain ⟨h1, h2⟩ := ihs h.2 r T hT
  simp only [ses_cons] at h1 h2 ⊢
  simp only [js_cons, dispList, comma, List.append_assoc, List.cons_append, List.nil_append]
  refine ⟨?_, (ih h.1 _).1⟩
  refine ih.lexes h.1 (fol_hd _ _) ?_
  refine lx_p1 ?_
  exact lx_sp h2 h1

theorem lexEntries_nil : LexEntries sf [] := by
  intro _ r T hT
  simp only [sen_nil, js_nil, dispEntries, List.nil_append, List.cons_append]
  exact ⟨lx_p1 hT, noWhite_cons⟩

theorem lexEntries_one (k : Str) (e : Expr) (ih : LexShow sf e) : LexEntries sf [(k, e)] := by
  intro h r T hT
  simp only [TextOKM] at h
  obtain ⟨hk, h, _⟩ := h
  simp only [sen_cons, sen_nil, js_one, dispEntries, colon, List.append_assoc, List.cons_append, List.nil_append]
  refine ⟨?_, hk.start _⟩
  refine lx_fol (.ident _ hk) ?_
  refine lx_p1 ?_
  exact ih.sp h (fol_hd _ _) (lx_p1 hT)

theorem lexEntries_cons (k : Str) (e : Expr) (kv2 : Str × Expr) (kvs : List (Str × Expr))
    (ih : LexShow sf e) (ihs : LexEntries sf (kv2 :: kvs)) : LexEntries sf ((k, e) :: kv2 :: kvs) := by
  intro h r T hT
  rw [TextOKM] at h
  obtain ⟨hk, h, hkvs⟩ := h
  obtain ⟨h1, h2⟩ := ihs hkvs r T hT
  obtain ⟨k2, e2⟩ := kv2
  simp only [sen_cons] at h1 h2 ⊢
  simp only [List.append_assoc, List.cons_append, List.nil_append] at h1 h2
  simp only [js_cons, dispEntries, colon, comma, List.append_assoc, List.cons_append, List.nil_append]
  refine ⟨?_, hk.start _⟩
  refine lx_fol (.ident _ hk) ?_
  refine lx_p1 ?_
  refine ih.sp h (fol_hd _ _) ?_
  refine lx_p1 ?_
  exact lx_sp h2 h1

theorem lexShow_vec (xs : List Expr) (ih : LexList sf xs) : LexShow sf (.vec xs) := by
  intro h r
  simp only [showExpr, s_comma, dispToks, List.append_assoc, List.cons_append, List.nil_append]
  exact ⟨noWhite_cons, fun T _ hT => lx_p1 (ih (by simpa only [TextOK] using h) r T hT).1⟩

theorem lexShow_map (kvs : List (Str × Expr)) (ih : LexEntries sf kvs) : LexShow sf (.map kvs) := by
  intro h r
  simp only [showExpr, s_comma, dispToks, List.append_assoc, List.cons_append, List.nil_append]
  exact ⟨noWhite_cons, fun T _ hT => lx_p1 (ih (by simpa only [TextOK] using h) r T hT).1⟩

/-- motives: expressions, map entries, lists; cases: expressions, lists, map entries -/
theorem lexShow_all : (∀ e, LexShow sf e) ∧ (∀ kvs, LexEntries sf kvs) ∧ (∀ xs, LexList sf xs) :=
  dispToks.mutual_induct (LexShow sf) (LexEntries sf) (LexList sf) lexShow_lit lexShow_ref lexShow_sym lexShow_call
    lexShow_index lexShow_ite lexShow_and lexShow_or lexShow_eq lexShow_neq lexShow_un lexShow_bitwise lexShow_contains
    lexShow_binop lexShow_vec lexShow_map lexList_nil lexList_one lexList_cons lexEntries_nil lexEntries_one lexEntries_cons

theorem lex_showExpr (e : Expr) (h : TextOK sf e) : lex (showExpr sf e) = some (dispToks sf e) := by
  have := (lexShow_all.1 e).lexes h (r := []) (T := []) trivial Lexes.nil
  simpa using this.lex

end Reval.LexC
