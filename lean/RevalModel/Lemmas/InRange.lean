/-
  Lemmas/InRange.lean — evaluation never yields a value outside the range of its Rust type (`Value.inRange`,
  Spec/Range.lean): every Int an i128, every Decimal a 96-bit mantissa with scale ≤ 28, every DateTime / Duration within
  chrono's bounds, at every depth of a list or map.  The primitives are in Lemmas/Ranges.lean; here the operators, then `eval`.
  Every statement stands under a proposition `H`: the operands, the oracle, the environment, the literals and the cache are
  in range IF `H`, and then so is the result IF `H`; that nothing panics (part of `Res.All`) holds without `H`.  At
  `H := True` this is the range theorem, at `H := False` the no-panic theorem: both halves of C01 from one pass over the
  table and one induction along `prog`.
-/
import RevalModel.Spec.Range
import RevalModel.Lemmas.Ranges
import RevalModel.Lemmas.Strings
import RevalModel.Lemmas.Sorted
import RevalModel.Lemmas.Table
import RevalModel.Lemmas.Prog
import RevalModel.Lemmas.Outcome

namespace Reval

theorem inRangeFields_iff : ∀ (m : List (Str × Value)), Value.inRangeFields m = true ↔ ∀ kv ∈ m, kv.2.inRange = true
  | [] => by simp [Value.inRangeFields]
  | (k, v) :: m => by simp [Value.inRangeFields, inRangeFields_iff m]

theorem inRangeList_iff : ∀ (xs : List Value), Value.inRangeList xs = true ↔ ∀ v ∈ xs, v.inRange = true
  | [] => by simp [Value.inRangeList]
  | v :: xs => by simp [Value.inRangeList, inRangeList_iff xs]

theorem lookup_inRange {m : List (Str × Value)} {k : Str} {v : Value} (hm : Value.inRangeFields m = true)
    (h : lookup m k = some v) : v.inRange = true :=
  (inRangeFields_iff m).1 hm _ (lookup_mem m k v h)

theorem getElem?_inRange {xs : List Value} {n : Nat} {v : Value} (hx : Value.inRangeList xs = true)
    (h : xs[n]? = some v) : v.inRange = true :=
  (inRangeList_iff xs).1 hx _ (List.mem_of_getElem? h)

theorem getD_inRange {x : Option Value} (h : ∀ w, x = some w → w.inRange = true) : (x.getD .none).inRange = true := by
  cases x
  · rfl
  · exact h _ rfl

section
variable {H : Prop}

theorem index_inRange {v : Value} (i : Index) (hv : H → v.inRange = true) :
    (Impl.index v i).All fun r => H → r.inRange = true := by
  cases v <;> cases i
  case map.key => exact fun h => getD_inRange fun _ => lookup_inRange (hv h)
  case vec.pos => exact fun h => getD_inRange fun _ => getElem?_inRange (hv h)
  all_goals first | exact trivial | exact fun _ => rfl

theorem intCell_inRange (op : BinOp) {a : Int} (b : Int) (ha : H → I128.inRange a = true) :
    (intCell op a b).All fun r => H → r.inRange = true := by
  cases op
  case add | sub | mult => exact ofOpt_all fun _ hx _ => I128.checked_inRange hx
  case div => exact ofOpt_all fun _ hx h => I128.checkedDiv_inRange (ha h) hx
  case rem => exact ofOpt_all fun _ hx h => I128.checkedRem_inRange (ha h) hx
  case bitAnd => exact fun _ => I128.land_inRange a b
  case bitOr => exact fun _ => I128.lor_inRange a b
  case bitXor => exact fun _ => I128.xor_inRange a b
  all_goals exact fun _ => rfl

theorem mkDuration_inRange (u : Int) (v : Value) (i : Int) : (Impl.mkDuration u v i).All fun r => H → r.inRange = true := by
  unfold Impl.mkDuration
  split
  · next d hd => split at hd <;> first | exact fun _ => Time.tryUnits_inRange hd | cases hd
  · trivial

theorem oracle_inRange {o : Oracle} (ho : H → o.InRange) {op : FOp} {args : List Value} (v : Value)
    (hv : o op args = some (some v)) (h : H) : v.inRange = true := ho h _ _ _ hv

variable {o : Oracle} (ho : H → o.InRange)
include ho

theorem decCell_inRange (op : BinOp) {a b : Dec} (ha : H → a.wf = true) (hb : H → b.wf = true) :
    (decCell o op a b).All fun r => H → r.inRange = true := by
  cases op
  case add | sub => exact decOut_all (oracle_inRange ho) fun _ hx h => Dec.addSigned_wf _ (ha h) (hb h) hx
  case mult => exact decOut_all (oracle_inRange ho) fun _ hx _ => Dec.mul_wf hx
  case div | rem => exact .ite (fun _ => trivial) fun _ => ask_all (oracle_inRange ho) trivial
  all_goals first | exact trivial | exact fun _ => rfl

theorem cellBin_inRange (op : BinOp) {a b : Value} (ha : H → a.inRange = true) (hb : H → b.inRange = true) :
    (cellBin o op a b).All fun r => H → r.inRange = true := by
  unfold cellBin
  split
  · exact intCell_inRange op _ ha  -- Int, Int
  · cases op <;> first | exact fun _ => rfl | exact trivial  -- Float, Float
  · exact decCell_inRange ho op ha hb  -- Decimal, Decimal
  · cases op <;> first | exact fun _ => rfl | exact trivial  -- Bool, Bool
  · split <;> first | exact .ite (fun hr _ => hr) fun _ => trivial | trivial  -- DateTime, Duration
  · split <;> first | exact fun h => dt_sub_dt_inRange _ _ (ha h) (hb h) | exact fun _ => rfl  -- DateTime, DateTime
  · split <;> first | exact .ite (fun hr _ => hr) fun _ => trivial | exact fun _ => rfl  -- Duration, Duration
  -- membership is a Bool; no other pair of operand types has a cell
  all_goals first | exact trivial | exact fun _ => rfl

theorem cellUn_inRange (op : UnOp) {v : Value} (hv : H → v.inRange = true) :
    (cellUn o op v).All fun r => H → r.inRange = true := by
  cases op <;> cases v
  case neg.int => exact ofOpt_all fun _ hx _ => I128.checked_inRange hx
  case toInt.float =>
    -- (`split` does not unfold `cellUn`: the `show` only exposes, by `rfl`, the `match` of this arm; likewise below)
    show Res.All _ (match F64.truncToInt _ with | some n => if I128.inRange n then _ else _ | none => _)
    split
    · exact .ite (fun hr _ => hr) fun _ => trivial
    · trivial
  case toInt.dec => exact fun h => Dec.toInt_inRange (hv h)
  case toInt.str => exact ofOpt_all fun _ hx _ => parseI128_inRange hx
  case toDec.int =>
    show Res.All _ (match Dec.ofInt _ with | some d => _ | none => _)
    split
    · next hd => exact fun _ => Dec.ofInt_wf hd
    · trivial
  case dateTime.int => exact .ite (fun _ => ofOpt_all fun _ hx _ => Time.fromTimestamp_inRange hx) fun _ => trivial
  case duration.int => exact .ite (fun _ => ofOpt_all fun _ hx _ => Time.trySeconds_inRange hx) fun _ => trivial
  case upper.str | lower.str => exact .ite (fun _ _ => rfl) fun _ => ask_all (oracle_inRange ho) trivial
  case round.dec => exact decOut_all (oracle_inRange ho) fun _ hx h => Dec.round_wf (hv h) hx
  case floor.dec => exact decOut_all (oracle_inRange ho) fun _ hx h => Dec.floor_wf (hv h) hx
  case fract.dec => exact decOut_all (oracle_inRange ho) fun _ hx h => Dec.fract_wf (hv h) hx
  case year.dateTime => exact fun h => Time.year_inRange (hv h)
  case month.dateTime => exact fun h => Time.month_inRange (hv h)
  case day.dateTime => exact fun h => Time.day_inRange (hv h)
  case hour.dateTime => exact fun _ => Time.hour_inRange _
  case minute.dateTime => exact fun _ => Time.minute_inRange _
  case second.dateTime => exact fun _ => Time.second_inRange _
  case week.duration | day.duration | hour.duration | minute.duration | second.duration =>
    exact fun h => Time.numUnits_inRange _ (hv h)
  case week.int | day.int | hour.int | minute.int | second.int => exact mkDuration_inRange ..
  case toFloat.dec | toFloat.str | toDec.float | toDec.str | dateTime.str => exact ask_all (oracle_inRange ho) trivial
  case neg.dec => exact fun h => Dec.negate_wf (hv h)
  -- the operand itself
  case toInt.int | toFloat.float | toDec.dec | dateTime.dateTime | duration.duration => exact hv
  -- every other cell is a type error, or a Bool, None, a Float or a Str
  all_goals first | exact trivial | exact fun _ => rfl

theorem applyUn_all_inRange (op : UnOp) {v : Value} (hv : H → v.inRange = true) : (applyUn o op v).All fun r => H → r.inRange = true :=
  applyUn_cases (Q := (·.All _)) (cellUn_inRange ho op hv) (fun _ => rfl) trivial

theorem applyBin_all_inRange (op : BinOp) {a b : Value} (ha : H → a.inRange = true) (hb : H → b.inRange = true) :
    (applyBin o op a b).All fun r => H → r.inRange = true :=
  applyBin_cases (Q := (·.All _)) (cellBin_inRange ho op ha hb) (fun _ => rfl) (fun _ => rfl) trivial
end

theorem applyUn_inRange {o : Oracle} (ho : o.InRange) {op : UnOp} {v r : Value} (hv : v.inRange = true)
    (h : applyUn o op v = .ok r) : r.inRange = true :=
  (applyUn_all_inRange (H := True) (fun _ => ho) op fun _ => hv).of_eq h trivial

theorem applyBin_inRange {o : Oracle} (ho : o.InRange) {op : BinOp} {a b r : Value} (ha : a.inRange = true)
    (hb : b.inRange = true) (h : applyBin o op a b = .ok r) : r.inRange = true :=
  (applyBin_all_inRange (H := True) (fun _ => ho) op (fun _ => ha) fun _ => hb).of_eq h trivial

theorem St.InRange.cons {st : St} (hs : st.InRange) {k : Str × Value} {v : Value} (hv : v.inRange = true) (n : Nat) :
    St.InRange ⟨(k, v) :: st.cache, n⟩ :=
  cacheGet_cons (P := fun _ v => v.inRange = true) hv hs

section
variable {H : Prop} {env : Env} (he : H → env.InRange)
include he

theorem reference_inRange (n : Str) : (reference env n).All fun v => H → v.inRange = true := by
  unfold reference
  split
  · exact fun h => (he h).facts
  · split
    · next m hm =>
      split
      · next hw => exact fun h => lookup_inRange (m := m) (by simpa [hm, Value.inRange] using (he h).facts) hw
      · trivial
    · trivial

theorem symbol_inRange (n : Str) : (symbol env n).All fun v => H → v.inRange = true := by
  unfold symbol
  split
  · next hw => exact fun h => (he h).symbols _ _ hw
  · trivial

theorem callFn_inRange (f : Str) (a : Value) {st : St} (hs : H → st.InRange) :
    (callFn env f a st).1.All (fun v => H → v.inRange = true) ∧ (H → (callFn env f a st).2.1.InRange) := by
  apply callFn_cases (Q := fun o => o.1.All _ ∧ (H → o.2.1.InRange))
  case unknown => exact fun _ => ⟨trivial, hs⟩
  case hit => exact fun _ _ _ _ hv => ⟨fun h => hs h _ _ hv, hs⟩
  case stored =>
    exact fun _ _ hf _ _ hb => ⟨fun h => (he h).fns _ _ hf _ _ _ hb, fun h => (hs h).cons ((he h).fns _ _ hf _ _ _ hb) _⟩
  case invoked => exact fun _ _ hf _ hb => ⟨fun h => (he h).fns _ _ hf _ _ _ hb, hs⟩
  case failed => exact fun _ _ _ _ _ => ⟨trivial, hs⟩
omit he

/-- `m` never panics; under `H`, from a cache in range, the value it returns (if any) satisfies `good` and the cache stays in
    range -/
def KeepsRange (H : Prop) {α : Type} (good : α → Prop) (m : Comp α) : Prop :=
  ∀ st, (H → st.InRange) → (m st).1.All (fun a => H → good a) ∧ (H → (m st).2.1.InRange)

theorem KeepsRange.ret {α : Type} {good : α → Prop} {r : Res α} (h : r.All fun a => H → good a) :
    KeepsRange H good ((Prog.ret r).run env) := fun _ hs => ⟨h, hs⟩

theorem KeepsRange.seq {α β : Type} {good : α → Prop} {good' : β → Prop} {m : Prog α} {f : α → Prog β}
    (hm : KeepsRange H good (m.run env)) (hf : ∀ a, (H → good a) → KeepsRange H good' ((f a).run env)) :
    KeepsRange H good' ((m.seq f).run env) := by
  intro st hs
  have h := hm st hs
  refine Prog.run_seq_cases (Q := fun o => o.1.All (fun b => H → good' b) ∧ (H → o.2.1.InRange))
    (fun a ha => hf a (h.1.of_eq ha) _ h.2) fun r hn hp _ => ⟨?_, h.2⟩
  -- `r` is the non-value outcome of `m`, which is no panic
  cases r <;> first | exact absurd rfl (hn _) | trivial | exact Bool.noConfusion (hp.trans h.1.noPanic)

include he
theorem prog_inRange :
    (∀ rp e, (H → e.litsInRange = true) → KeepsRange H (·.inRange = true) ((prog env rp e).run env)) ∧
    (∀ rp i kvs, (H → Expr.litsInRangeFields kvs = true) →
      KeepsRange H (Value.inRangeFields · = true) ((progMap env rp i kvs).run env)) ∧
    (∀ rp i es, (H → Expr.litsInRangeList es = true) →
      KeepsRange H (Value.inRangeList · = true) ((progList env rp i es).run env)) := by
  have ho : H → env.oracle.InRange := fun h => (he h).oracle
  refine prog.mutual_induct _ _ _ ?lit ?ref ?sym ?index ?call ?ite ?and ?or ?eq ?neq ?un ?bin ?vec ?map ?nilL ?consL
    ?nilM ?consM
  all_goals
    intros
    simp only [prog, progList, progMap, Expr.litsInRange, Expr.litsInRangeList, Expr.litsInRangeFields,
      Bool.and_eq_true, imp_and] at *
  case lit hl => exact .ret hl
  case ref => exact .ret (reference_inRange he _)
  case sym => exact .ret (symbol_inRange he _)
  case nilL | nilM => exact .ret fun _ => rfl
  case index ih hl => exact (ih hl).seq fun _ hv => .ret (index_inRange _ hv)
  case un ih hl => exact (ih hl).seq fun _ hv => .ret (applyUn_all_inRange ho _ hv)
  case call ih hl => exact (ih hl).seq fun v _ _ hs => callFn_inRange he _ v hs
  case bin ihl ihr hl => exact (ihl hl.1).seq fun _ ha => (ihr hl.2).seq fun _ hb => .ret (applyBin_all_inRange ho _ ha hb)
  case vec ih hl | map ih hl => exact (ih hl).seq fun _ hvs => .ret hvs
  case consL ih ihs hl | consM ih ihs hl =>
    exact (ih hl.1).seq fun _ hv => (ihs hl.2).seq fun _ hvs => .ret fun h => Bool.and_eq_true_iff.2 ⟨hv h, hvs h⟩
  -- the lazy nodes return a value of a sub-expression, a Bool or a type error
  case ite ihc iht ihe hl =>
    refine (ihc hl.1.1).seq fun v _ => ?_
    split
    · exact iht hl.1.2
    · exact ihe hl.2
    · exact .ret trivial
  case and ihl ihr hl | or ihl ihr hl =>
    refine (ihl hl.1).seq fun v _ => ?_
    -- the left operand decides; or the right one is evaluated and must be a Bool; or the left one is no Bool
    split
    next => exact .ret fun _ => rfl
    next =>
      refine (ihr hl.2).seq fun w _ => ?_
      split
      · exact .ret fun _ => rfl
      · exact .ret trivial
    next => exact .ret trivial
  case eq ihl ihr hl | neq ihl ihr hl =>
    refine (ihl hl.1).seq fun v _ => ?_
    split
    · exact .ret fun _ => rfl
    · exact (ihr hl.2).seq fun _ _ => .ret fun _ => rfl

theorem eval_keepsRange (rp : List Nat) (e : Expr) (st : St) (hl : H → e.litsInRange = true) (hs : H → st.InRange) :
    (eval env rp e st).1.All (fun v => H → v.inRange = true) ∧ (H → (eval env rp e st).2.1.InRange) :=
  eval_eq_run env rp e ▸ (prog_inRange he).1 rp e hl st hs
end

theorem eval_inRange {env : Env} (he : env.InRange) (rp : List Nat) (e : Expr) (st : St)
    (hl : e.litsInRange = true) (hs : st.InRange) :
    (eval env rp e st).1.All (·.inRange = true) ∧ (eval env rp e st).2.1.InRange :=
  have h := eval_keepsRange (H := True) (fun _ => he) rp e st (fun _ => hl) fun _ => hs
  ⟨h.1.imp fun _ hv => hv trivial, h.2 trivial⟩

theorem eval_noPanic (env : Env) (rp : List Nat) (e : Expr) (st : St) : (eval env rp e st).1.isPanic = false :=
  (eval_keepsRange (H := False) nofun rp e st nofun nofun).1.noPanic

theorem applyUn_noPanic (o : Oracle) (op : UnOp) (v : Value) : (applyUn o op v).isPanic = false :=
  (applyUn_all_inRange (H := False) nofun op nofun).noPanic

theorem applyBin_noPanic (o : Oracle) (op : BinOp) (a b : Value) : (applyBin o op a b).isPanic = false :=
  (applyBin_all_inRange (H := False) nofun op nofun nofun).noPanic

theorem St.init_inRange : St.init.InRange := by
  intro k v h; simp [St.init, cacheGet] at h

theorem evalRules_inRange {env : Env} (he : env.InRange) (rules : List Expr) (i : Nat) (st : St)
    (hl : ∀ e ∈ rules, e.litsInRange = true) (hs : st.InRange) :
    ∀ r ∈ (evalRules env i rules st).1, ∀ v, r = .ok v → v.inRange = true := by
  induction rules generalizing i st with
  | nil => exact fun _ h => (List.not_mem_nil h).elim
  | cons e es ih =>
    rw [List.forall_mem_cons] at hl
    have h := eval_inRange he [i] e st hl.1 hs
    exact List.forall_mem_cons.2 ⟨fun _ => h.1.of_eq, ih (i + 1) _ hl.2 h.2⟩

end Reval
