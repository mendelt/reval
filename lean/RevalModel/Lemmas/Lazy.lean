/-
  Lemmas/Lazy.lean — evaluation order: the call sites reached are a subsequence of the static left-to-right post-order;
  every invocation belongs to a reached call node; the static order has no repetition (the sites of a node lie at or
  below its path, those of different children apart), so no site is reached twice.
  An expression without lazy nodes that yields a value reaches EVERY one of its sites ("everything else once"): the same
  induction, whose statement `Trace (e.strict = true)` adds the equality for a strict `e`.
-/
import RevalModel.Lemmas.Prog

namespace Reval

@[simp] theorem reached_append (a b : List Event) : reached (a ++ b) = reached a ++ reached b := by
  induction a with
  | nil => rfl
  | cons e es ih => cases e <;> simp [reached, ih]

@[simp] theorem reachedCalls_append (a b : List Event) : reachedCalls (a ++ b) = reachedCalls a ++ reachedCalls b := by
  induction a with
  | nil => rfl
  | cons e es ih => cases e <;> simp [reachedCalls, ih]

@[simp] theorem invokedCalls_append (a b : List Event) : invokedCalls (a ++ b) = invokedCalls a ++ invokedCalls b := by
  induction a with
  | nil => rfl
  | cons e es ih => cases e <;> simp [invokedCalls, ih]

theorem callFn_events (env : Env) (f : Str) (a : Value) (st : St) :
    reached (callFn env f a st).2.2 = [] ∧ reachedCalls (callFn env f a st).2.2 = [] ∧
    (invokedCalls (callFn env f a st).2.2).Sublist [(f, a)] := by
  apply callFn_cases (Q := fun o => reached o.2.2 = [] ∧ reachedCalls o.2.2 = [] ∧ (invokedCalls o.2.2).Sublist [(f, a)])
  case unknown | hit => intros; exact ⟨rfl, rfl, List.nil_sublist _⟩
  all_goals intros; exact ⟨rfl, rfl, .refl _⟩

theorem Prog.call_reached (env : Env) (rp : List Nat) (f : Str) (v : Value) (st : St) :
    reached ((Prog.call rp f v).run env st).2.2 = [rp] :=
  congrArg (rp :: ·) (callFn_events env f v st).1

theorem Prog.invoked_sublist (env : Env) {α : Type} (p : Prog α) (st : St) :
    (invokedCalls (p.run env st).2.2).Sublist (reachedCalls (p.run env st).2.2) := by
  induction p generalizing st with
  | ret r => exact .slnil
  | seq m f ihm ihf =>
    refine Prog.run_seq_cases (Q := fun o => (invokedCalls o.2.2).Sublist (reachedCalls o.2.2)) (fun _ _ => ?_)
      fun _ _ _ _ => ihm st
    rw [invokedCalls_append, reachedCalls_append]; exact (ihm st).append (ihf _ _)
  | call rp f v =>
    have h := (callFn_events env f v st).2
    simp only [Prog.run, invokedCalls, reachedCalls, h.1]
    exact h.2

theorem invoked_sublist_reached (env : Env) (rp : List Nat) (e : Expr) (st : St) :
    (invokedCalls (eval env rp e st).2.2).Sublist (reachedCalls (eval env rp e st).2.2) :=
  eval_eq_run env rp e ▸ Prog.invoked_sublist env _ st

/-! ### the static order has no repetition (about `sites` alone) -/

theorem child_unique {i j : Nat} {rp x : List Nat} (hi : i :: rp <:+ x) (hj : j :: rp <:+ x) : i = j :=
  (List.cons.inj ((List.suffix_of_suffix_length_le hi hj (by simp)).eq_of_length (by simp))).1

/-- distinct paths at or below `rp` -/
def Under (rp : List Nat) (A : List (List Nat)) : Prop := A.Nodup ∧ ∀ x ∈ A, rp <:+ x

/-- distinct paths below the children `i`, `i + 1`, … of `rp` -/
def Below (rp : List Nat) (i : Nat) (A : List (List Nat)) : Prop := A.Nodup ∧ ∀ x ∈ A, ∃ j, i ≤ j ∧ j :: rp <:+ x

theorem Below.under {rp i A} (h : Below rp i A) : Under rp A :=
  ⟨h.1, fun x hx => let ⟨j, _, hj⟩ := h.2 x hx; (List.suffix_cons j rp).trans hj⟩

theorem Under.below {rp i A} (h : Under (i :: rp) A) : Below rp i A := ⟨h.1, fun x hx => ⟨i, Nat.le_refl i, h.2 x hx⟩⟩

theorem Under.append_below {rp i A B} (hA : Under (i :: rp) A) (hB : Below rp (i + 1) B) : Below rp i (A ++ B) := by
  refine ⟨List.nodup_append.2 ⟨hA.1, hB.1, fun a ha b hb hab => ?_⟩, fun x hx => ?_⟩
  · obtain ⟨j, hj, h⟩ := hB.2 b hb
    have := child_unique (hA.2 a ha) (hab ▸ h)
    omega
  · rcases List.mem_append.1 hx with h | h
    · exact ⟨i, Nat.le_refl i, hA.2 x h⟩
    · obtain ⟨j, hj, h⟩ := hB.2 x h
      exact ⟨j, by omega, h⟩

theorem Under.call {rp A} (hA : Under (0 :: rp) A) : Under rp (A ++ [rp]) := by
  refine ⟨List.nodup_append.2 ⟨hA.1, by simp, fun a ha b hb hab => ?_⟩, fun x hx => ?_⟩
  · have := (hA.2 a ha).length_le
    rw [hab, List.mem_singleton.1 hb, List.length_cons] at this
    omega
  · rcases List.mem_append.1 hx with h | h
    · exact hA.below.under.2 x h
    · exact List.mem_singleton.1 h ▸ List.suffix_refl rp

theorem sites_under :
    (∀ rp e, Under rp (sites rp e)) ∧ (∀ rp i kvs, Below rp i (sitesMap rp i kvs)) ∧
    (∀ rp i es, Below rp i (sitesList rp i es)) := by
  refine sites.mutual_induct _ _ _ ?lit ?ref ?sym ?index ?call ?ite ?and ?or ?eq ?neq ?un ?bin ?vec ?map ?nilL ?consL
    ?nilM ?consM
  all_goals
    intros
    simp only [sites, sitesList, sitesMap]
  case lit | ref | sym | nilL | nilM => exact ⟨.nil, nofun⟩
  case index ih | un ih => exact ih.below.under
  case vec ih | map ih => exact ih.under
  case call ih => exact ih.call
  case and ihl ihr | or ihl ihr | eq ihl ihr | neq ihl ihr | bin ihl ihr => exact (ihl.append_below ihr.below).under
  case ite ihc iht ihe => exact (ihc.append_below (iht.append_below ihe.below)).under
  case consL ih ihs | consM ih ihs => exact ih.append_below ihs

theorem sites_nodup (rp : List Nat) (e : Expr) : (sites rp e).Nodup := (sites_under.1 rp e).1

/-! ### reached ⊑ static sites, with equality on strict expressions -/

mutual
/-- no `if`, `and`, `or`, `==`, `!=` anywhere inside -/
def Expr.strict : Expr → Bool
  | .lit _ => true
  | .ref _ => true
  | .sym _ => true
  | .index e _ => e.strict
  | .call _ a => a.strict
  | .ite _ _ _ => false
  | .and _ _ => false
  | .or _ _ => false
  | .eq _ _ => false
  | .neq _ _ => false
  | .un _ e => e.strict
  | .bin _ l r => l.strict && r.strict
  | .vec xs => Expr.strictList xs
  | .map kvs => Expr.strictMap kvs
def Expr.strictList : List Expr → Bool
  | [] => true
  | e :: es => e.strict && Expr.strictList es
def Expr.strictMap : List (Str × Expr) → Bool
  | [] => true
  | (_, e) :: es => e.strict && Expr.strictMap es
end

/-- the sites reached are a subsequence of `A`; and if `s` ("the expression is strict") and the outcome is a value, they are
    exactly `A` (a non-value outcome has stopped on the way) -/
def Trace (s : Prop) {α : Type} (o : Res α × St × List Event) (A : List (List Nat)) : Prop :=
  (reached o.2.2).Sublist A ∧ (s → ∀ v, o.1 = .ok v → reached o.2.2 = A)

section
variable {s s' s'' : Prop} {env : Env}

theorem Trace.ret {α : Type} (r : Res α) (st : St) : Trace s (r, st, []) [] := ⟨.slnil, fun _ _ _ => rfl⟩

/-- the node is strict only if both parts are (`hs`) -/
theorem Trace.seq {α β : Type} {m : Prog α} {f : α → Prog β} {st : St} {A B : List (List Nat)} (hs : s'' → s ∧ s')
    (hm : Trace s (m.run env st) A) (hf : ∀ a st1, Trace s' ((f a).run env st1) B) :
    Trace s'' ((m.seq f).run env st) (A ++ B) :=
  Prog.run_seq_cases (Q := (Trace _ · _))
    (fun a ha => ⟨reached_append .. ▸ hm.1.append (hf _ _).1,
      fun h v hv => by rw [reached_append, hm.2 (hs h).1 a ha, (hf _ _).2 (hs h).2 v hv]⟩)
    fun _ hn _ _ => ⟨List.sublist_append_of_sublist_left hm.1, fun _ v hv => absurd hv (hn v)⟩

theorem Trace.seq_ret {α β : Type} {m : Prog α} {g : α → Res β} {st : St} {A : List (List Nat)}
    (hm : Trace s (m.run env st) A) : Trace s ((m.seq fun a => .ret (g a)).run env st) A :=
  List.append_nil A ▸ hm.seq (⟨·, trivial⟩) fun _ _ => .ret _ _

/-- a lazy node, which is not strict: it may reach fewer sites -/
theorem Trace.lazy {α : Type} {o : Res α × St × List Event} {A A' : List (List Nat)} (h : Trace s o A)
    (hA : A.Sublist A') : Trace False o A' := ⟨h.1.trans hA, nofun⟩

theorem prog_trace (env : Env) :
    (∀ rp e st, Trace (e.strict = true) ((prog env rp e).run env st) (sites rp e)) ∧
    (∀ rp i kvs st, Trace (Expr.strictMap kvs = true) ((progMap env rp i kvs).run env st) (sitesMap rp i kvs)) ∧
    (∀ rp i es st, Trace (Expr.strictList es = true) ((progList env rp i es).run env st) (sitesList rp i es)) := by
  refine prog.mutual_induct _ _ _ ?lit ?ref ?sym ?index ?call ?ite ?and ?or ?eq ?neq ?un ?bin ?vec ?map ?nilL ?consL
    ?nilM ?consM
  all_goals
    intros
    simp only [prog, progList, progMap, sites, sitesList, sitesMap, Expr.strict, Expr.strictList, Expr.strictMap,
      Bool.and_eq_true] at *
  case lit | ref | sym | nilL | nilM => exact .ret _ _
  case index ih st | un ih st | vec ih st | map ih st => exact (ih st).seq_ret
  case call f _ ih st =>
    exact (ih st).seq (⟨·, trivial⟩) fun v st1 =>
      ⟨Prog.call_reached env _ f v st1 ▸ .refl _, fun _ _ _ => Prog.call_reached env _ f v st1⟩
  case bin ihl ihr st | consL ihl ihr st | consM ihl ihr st => exact (ihl st).seq id fun _ st1 => (ihr st1).seq_ret
  -- a lazy node is not strict (`nofun`); each arm reaches some of the sites that follow the first operand's
  case ite ihc iht ihe st =>
    refine (ihc st).seq (s' := False) nofun fun v st1 => ?_
    split
    · exact (iht st1).lazy (List.sublist_append_left ..)
    · exact (ihe st1).lazy (List.sublist_append_right ..)
    · exact (Trace.ret (s := True) _ _).lazy (List.nil_sublist _)
  case and ihl ihr st | or ihl ihr st =>
    refine (ihl st).seq (s' := False) nofun fun v st1 => ?_
    split
    next => exact (Trace.ret (s := True) _ _).lazy (List.nil_sublist _)
    next => exact ((ihr st1).seq (⟨·, trivial⟩) fun w _ => by split <;> exact .ret _ _).lazy (by simp)
    next => exact (Trace.ret (s := True) _ _).lazy (List.nil_sublist _)
  case eq ihl ihr st | neq ihl ihr st =>
    refine (ihl st).seq (s' := False) nofun fun v st1 => ?_
    split
    · exact (Trace.ret (s := True) _ _).lazy (List.nil_sublist _)
    · exact (ihr st1).seq_ret.lazy (.refl _)
end

theorem trace_sublist (env : Env) (rp : List Nat) (e : Expr) (st : St) :
    (reached (eval env rp e st).2.2).Sublist (sites rp e) :=
  eval_eq_run env rp e ▸ ((prog_trace env).1 rp e st).1

theorem reached_nodup (env : Env) (rp : List Nat) (e : Expr) (st : St) : (reached (eval env rp e st).2.2).Nodup :=
  List.Sublist.nodup (trace_sublist env rp e st) (sites_nodup rp e)

theorem strict_ok_reaches_all (env : Env) (rp : List Nat) (e : Expr) (st : St) (hs : e.strict = true)
    (v : Value) (st1 : St) (ev : List Event) (h : eval env rp e st = (.ok v, st1, ev)) :
    reached ev = sites rp e := by
  have := ((prog_trace env).1 rp e st).2 hs
  rw [← eval_eq_run, h] at this
  exact this v rfl

end Reval
