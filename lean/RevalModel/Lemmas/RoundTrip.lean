/-
  Lemmas/RoundTrip.lean — every rendering of a tree under the precedence table parses back to that tree, by a
  continuation-style statement per level (`S`).
-/
import RevalModel.Lemmas.ParseRel
import RevalModel.Lemmas.GrammarTable

namespace Reval.G
open Reval

namespace RoundTrip

/-- a token that may follow a phrase standing where the table asks for level `k`: not an operator of a level tighter than
    `k`, not a postfix step or membership operator when `k < 8`, and never an opening parenthesis (after `IDENT` and
    `none` it would make the atom a call; the condition does not look at how the phrase ends, so `(` is out at every level) -/
def FolTok (k : Nat) (t : Tok) : Prop :=
  (∀ j, k < j → binOpAt j t = none) ∧ (k < 8 → t ≠ dot ∧ t ≠ kwContains ∧ t ≠ kwIn) ∧ t ≠ lp

def Fol (k : Nat) (rest : List Tok) : Prop := ∀ t, rest.head? = some t → FolTok k t

/-- the parsing relation of level `k`: 0 `IfExpr`, 1 … 5 the binary levels, 6 `ContainsExpr`, 7 `UnaryExpr`, 8 `IndexExpr`,
    from 9 on `Term` -/
def Pk (o : Oracle) (k : Nat) : List Tok → Expr → List Tok → Prop :=
  if k = 0 then PIf o else if k ≤ 5 then PBin o k else if k = 6 then PCont o else if k = 7 then PUn o
  else if k = 8 then PIdx o else PTerm o

/-- at the levels without a loop (0, 6, 7, from 9 on) it returns the accumulator: what lets `S` be one statement for all
    levels -/
def Lk (o : Oracle) (k : Nat) : Expr → List Tok → Expr → List Tok → Prop :=
  if 1 ≤ k ∧ k ≤ 5 then LBin o k else if k = 8 then LIdx o else fun acc ts e r => acc = e ∧ ts = r

/-- if continuing the loop of level `k` with accumulator `e` on `rest` yields `(e', r')`, then parsing `T ++ rest` at
    level `k` yields `(e', r')` — for `rest` whose first token cannot continue an expression that ended at a tighter
    level (`Fol k rest`) -/
def S (o : Oracle) (k : Nat) (e : Expr) (T : List Tok) : Prop :=
  ∀ rest e' r', Fol k rest → Lk o k e rest e' r' → Pk o k (T ++ rest) e' r'

/-- the first token of a rendering for a phrase of level ≥ j: the functions of the levels 0, 6 and 7 choose an alternative
    by it, and `pVecItems` tests for `]` before it tries an item -/
def FirstGE (j : Nat) (T : List Tok) : Prop :=
  ∃ t, T.head? = some t ∧ (1 ≤ j → t ≠ kwIf) ∧ (8 ≤ j → t ≠ minus ∧ t ≠ bang) ∧ t ≠ .p [']']

variable {o : Oracle}

section
variable {j k : Nat} {t : Tok} {T rest : List Tok}

theorem first_cons (h : t ∉ [kwIf, minus, bang, .p [']']]) : FirstGE j (t :: T) := by
  simp only [List.mem_cons, List.not_mem_nil, not_or, or_false] at h
  exact ⟨t, rfl, fun _ => h.1, fun _ => ⟨h.2.1, h.2.2.1⟩, h.2.2.2⟩

theorem FirstGE.mono (h : FirstGE j T) (hk : k ≤ j) : FirstGE k T :=
  let ⟨t, ht, h1, h2, h3⟩ := h
  ⟨t, ht, fun hk1 => h1 (by omega), fun hk8 => h2 (by omega), h3⟩

theorem FirstGE.append (h : FirstGE j T) (U : List Tok) : FirstGE j (T ++ U) :=
  let ⟨t, ht, h'⟩ := h
  ⟨t, by simp [List.head?_append, ht], h'⟩

theorem FirstGE.noIf (h : FirstGE j T) (hj : 1 ≤ j) : T.head? ≠ some kwIf :=
  let ⟨_, ht, h1, _⟩ := h
  fun e => h1 hj (Option.some.inj (ht ▸ e))

theorem FirstGE.noUnary (h : FirstGE j T) (hj : 8 ≤ j) : NoUnary T :=
  let ⟨_, ht, _, h2, _⟩ := h
  ⟨fun e => (h2 hj).1 (Option.some.inj (ht ▸ e)), fun e => (h2 hj).2 (Option.some.inj (ht ▸ e))⟩

theorem FirstGE.noRb (h : FirstGE j T) : T.head? ≠ some (.p [']']) :=
  let ⟨_, ht, _, _, h3⟩ := h
  fun e => h3 (Option.some.inj (ht ▸ e))

theorem FolTok.mono (h : FolTok k t) (hk : k ≤ j) : FolTok j t :=
  ⟨fun i hi => h.1 i (by omega), fun hj => h.2.1 (by omega), h.2.2⟩

theorem Fol.nil : Fol k [] := nofun

theorem Fol.cons (h : FolTok k t) : Fol k (t :: rest) := fun _ e => Option.some.inj e ▸ h

theorem Fol.mono (h : Fol k rest) (hk : k ≤ j) : Fol j rest := fun t e => (h t e).mono hk

theorem Fol.noOp (h : Fol k rest) (hj : k < j) : ∀ t, rest.head? = some t → binOpAt j t = none := fun t e => (h t e).1 j hj

theorem Fol.noDot (h : Fol k rest) (hk : k < 8) : rest.head? ≠ some dot := fun e => ((h _ e).2.1 hk).1 rfl

theorem Fol.noMember (h : Fol k rest) (hk : k < 8) : rest.head? ≠ some kwContains ∧ rest.head? ≠ some kwIn :=
  ⟨fun e => ((h _ e).2.1 hk).2.1 rfl, fun e => ((h _ e).2.1 hk).2.2 rfl⟩

theorem Fol.noLP (h : Fol k rest) : NoLP rest := fun e => (h _ e).2.2 rfl

end

theorem Lk_stop {k j : Nat} {rest : List Tok} {e : Expr} (h : Fol k rest) (hj : k < j) : Lk o j e rest e rest := by
  unfold Lk
  split
  · exact LBin_stop (h.noOp hj)
  · split
    · rename_i h8; subst h8
      exact LIdx_stop (h.noDot hj)
    · exact ⟨rfl, rfl⟩

theorem Pk_bin {k : Nat} (h1 : 1 ≤ k) (h5 : k ≤ 5) : Pk o k = PBin o k := by
  unfold Pk; simp [show k ≠ 0 by omega, h5]

theorem Pk_ge9 {k : Nat} (h : 9 ≤ k) : Pk o k = PTerm o := by
  unfold Pk
  simp [show k ≠ 0 by omega, show ¬ k ≤ 5 by omega, show k ≠ 6 by omega, show k ≠ 7 by omega, show k ≠ 8 by omega]

theorem Lk_bin {k : Nat} (h1 : 1 ≤ k) (h5 : k ≤ 5) : Lk o k = LBin o k := by
  unfold Lk; simp [h1, h5]

theorem Lk_triv {k : Nat} (h : ¬ (1 ≤ k ∧ k ≤ 5)) (h8 : k ≠ 8) :
    Lk o k = fun acc ts e r => acc = e ∧ ts = r := by
  unfold Lk; simp [h, h8]

/-- at 6 through `PBin_six`: `pBin` at level 6 is `pContains` -/
theorem PBin_of_Pk {k : Nat} {ts r : List Tok} {e : Expr} (h1 : 1 ≤ k) (h6 : k ≤ 6) (h : Pk o k ts e r) :
    PBin o k ts e r := by
  by_cases h5 : k ≤ 5
  · rwa [Pk_bin h1 h5] at h
  · obtain rfl : k = 6 := by omega
    exact PBin_six (Nat.le_refl 6) h

theorem S_stop {k j : Nat} {e : Expr} {T rest : List Tok} (hS : S o j e T) (hfol : Fol k rest) (hkj : k < j) :
    Pk o j (T ++ rest) e rest :=
  hS rest e rest (hfol.mono (Nat.le_of_lt hkj)) (Lk_stop hfol hkj)

/-- the level of the function that the function of level `k` calls for a text that starts with none of `if`, `-`, `!`: the
    next one, except that `ContainsExpr` calls `IndexExpr`, past `UnaryExpr` -/
def up (k : Nat) : Nat := if k = 6 then 8 else k + 1

theorem S_down {e : Expr} {T : List Tok} {j : Nat} (hF : FirstGE j T) (hj9 : j ≤ 9) (k : Nat) (hk : up k ≤ j)
    (hS : S o (up k) e T) : S o k e T := by
  intro rest e' r' hfol hL
  have hF := hF.append rest
  by_cases h5 : k ≤ 5
  · rw [up, if_neg (by omega)] at hS hk
    rcases Nat.eq_zero_or_pos k with rfl | h1
    · -- IfExpr falls through to LogExpr when the text does not start with `if`
      obtain ⟨rfl, rfl⟩ := hL
      exact PIf_of_bin (hF.noIf hk) (PBin_of_Pk (Nat.le_refl 1) (by omega) (S_stop (j := 1) hS hfol (by omega)))
    · -- a binary level: parse one level tighter, then this level's loop
      rw [Pk_bin h1 h5]
      rw [Lk_bin h1 h5] at hL
      exact PBin_step (by omega) (PBin_of_Pk (by omega) (by omega) (S_stop hS hfol (by omega))) hL
  · obtain rfl | rfl | rfl : k = 6 ∨ k = 7 ∨ k = 8 := by unfold up at hk; split at hk <;> omega
    · -- ContainsExpr → IndexExpr (the text does not start with - or !, and `rest` not with contains / in)
      obtain ⟨rfl, rfl⟩ := hL
      exact PCont_tail (hF.noUnary hk)
        (PContTail_plain (hfol.noMember (by omega)) (S_stop (j := 8) hS hfol (by omega)))
    · -- UnaryExpr → IndexExpr
      obtain ⟨rfl, rfl⟩ := hL
      exact PUn_index (hF.noUnary hk) (S_stop (j := 8) hS hfol (by omega))
    · -- IndexExpr = Term then the postfix loop
      exact PIdx_intro (S_stop (j := 9) hS hfol (by omega)) hL

/-- not from the unary level: from there the way down is another (`unary_node`) -/
theorem S_descend {e : Expr} {T : List Tok} {j : Nat} (hF : FirstGE j T) (hj9 : j ≤ 9) (hj7 : j ≠ 7)
    (hS : S o j e T) (k : Nat) (hk : k ≤ j) : S o k e T :=
  if hkj : k = j then hkj ▸ hS
  else
    have hup : up k ≤ j := by unfold up; split <;> omega
    S_down hF hj9 k hup (S_descend hF hj9 hj7 hS (up k) hup)
termination_by j - k
decreasing_by unfold up; split <;> omega

/-- what makes the loops left-associative -/
theorem binOpAt_folTok {k : Nat} {t : Tok} {mk : Expr → Expr → Expr} (h : binOpAt k t = some mk) : FolTok k t :=
  have ⟨_, _, _, a, b, c, d⟩ := opTab_toks _ (binOpAt_mem h)
  ⟨fun j hj => binOpAt_other h j (by omega), fun _ => ⟨a, b, c⟩, d⟩

theorem folTok8 {t : Tok} (h : t ≠ lp) : FolTok 8 t :=
  ⟨fun j hj => binOpAt_gt5 (by omega), fun h8 => absurd h8 (by omega), h⟩

/-- for the tokens that end an expression; one conjunction, so that `by decide` settles each -/
theorem closer_of {c : Tok} (h : (∀ p ∈ opTab, p.2.1 ≠ c) ∧ c ≠ dot ∧ c ≠ kwContains ∧ c ≠ kwIn ∧ c ≠ lp) :
    FolTok 0 c :=
  ⟨fun j _ => binOpAt_notin h.1 j, fun _ => ⟨h.2.1, h.2.2.1, h.2.2.2.1⟩, h.2.2.2.2⟩

theorem closer_rp : FolTok 0 rp := closer_of (by decide)
theorem closer_rb : FolTok 0 (.p [']']) := closer_of (by decide)
theorem closer_rc : FolTok 0 (.p ['}']) := closer_of (by decide)
theorem closer_comma : FolTok 0 comma := closer_of (by decide)
theorem closer_then : FolTok 0 kwThen := closer_of (by decide)
theorem closer_else : FolTok 0 kwElse := closer_of (by decide)

/-- what the induction shows of a node rendered without outer parentheses -/
def MB (o : Oracle) (e : Expr) (T : List Tok) : Prop := (∀ k, k ≤ lvl e → S o k e T) ∧ FirstGE (lvl e) T
/-- what the induction shows of a rendering for a position of level `k`, bare or in parentheses -/
def MR (o : Oracle) (k : Nat) (e : Expr) (T : List Tok) : Prop := S o k e T ∧ FirstGE k T

theorem S0_close {e : Expr} {T : List Tok} (h : S o 0 e T) {c : Tok} (hc : FolTok 0 c) (rest : List Tok) :
    PIf o (T ++ c :: rest) e (c :: rest) :=
  h (c :: rest) e (c :: rest) (.cons hc) ⟨rfl, rfl⟩

/-- a node parsed at its own level (the unary level apart) stands at every looser one -/
theorem node {x : Expr} {T : List Tok} {m : Nat} (hl : lvl x = m) (hm : m ≤ 9) (h7 : m ≠ 7) (hF : FirstGE m T)
    (hS : S o m x T) : MB o x T := by
  rw [MB, hl]; exact ⟨S_descend hF hm h7 hS, hF⟩

theorem atom_all {e : Expr} {T : List Tok} (hF : FirstGE 9 T) (hP : ∀ rest, NoLP rest → PTerm o (T ++ rest) e rest)
    (k : Nat) : S o k e T := by
  by_cases hk : k ≤ 9
  · refine S_descend hF (Nat.le_refl 9) (by omega) ?_ k hk
    intro rest _ _ hfol ⟨rfl, rfl⟩
    exact hP rest hfol.noLP
  · -- no production asks for a level above 9, but `R.paren k` stands at every `k`, and `paren_node` has to answer for it
    intro rest e' r' hfol hL
    rw [Lk_triv (by omega) (by omega)] at hL
    obtain ⟨rfl, rfl⟩ := hL
    rw [Pk_ge9 (by omega)]
    exact hP rest hfol.noLP

theorem atom {e : Expr} {T : List Tok} (hl : lvl e = 9) (hF : FirstGE 9 T)
    (hP : ∀ rest, NoLP rest → PTerm o (T ++ rest) e rest) : MB o e T :=
  ⟨fun k _ => atom_all hF hP k, hl ▸ hF⟩

theorem first_lit {j : Nat} {t : Tok} {T : List Tok} (ht : IsLitTok t) : FirstGE j (t :: T) := by
  cases t <;> simp only [IsLitTok] at ht
  all_goals exact first_cons (by simp [kwIf, minus, bang])

theorem func_node {k : Str} {op : UnOp} {e : Expr} {T : List Tok} (hk : funcOfKw k = some op) (ih : MR o 0 e T) :
    MB o (.un op e) (.kw k :: lp :: (T ++ [rp])) := by
  have hif : Tok.kw k ∉ [kwIf, minus, bang, .p [']']] := by
    simp only [kwIf, minus, bang, List.mem_cons, Tok.kw.injEq, reduceCtorEq, List.not_mem_nil, or_false]
    rintro rfl
    simp [funcOfKw] at hk
  exact atom (lvl_func hk e) (first_cons hif) fun rest _ => by
    simpa using PTerm_func hk (S0_close ih.1 closer_rp rest)

/-- postfix steps `. t`: the accumulator continues through the postfix loop -/
theorem index_node {e x : Expr} {T : List Tok} {t : Tok} (hl : lvl x = 8) (ih : MR o 8 e T)
    (hstep : ∀ {rest e' r'}, LIdx o x rest e' r' → LIdx o e (dot :: t :: rest) e' r') : MB o x (T ++ [dot, t]) :=
  node hl (by omega) (by omega) (ih.2.append _) fun rest e' r' _ hL => by
    simpa using ih.1 (dot :: t :: rest) e' r' (.cons (folTok8 (by decide))) (hstep hL)

theorem ite_node {c t e : Expr} {Tc Tt Te : List Tok} (ihc : MR o 0 c Tc) (iht : MR o 0 t Tt) (ihe : MR o 0 e Te) :
    MB o (.ite c t e) (kwIf :: (Tc ++ kwThen :: (Tt ++ kwElse :: Te))) := by
  refine ⟨fun k hk => ?_, ⟨kwIf, rfl, fun h => absurd h (by simp [lvl]), fun h => absurd h (by simp [lvl]), by decide⟩⟩
  obtain rfl : k = 0 := Nat.le_zero.1 hk
  intro rest _ _ hfol ⟨rfl, rfl⟩
  change PIf o _ _ _
  simpa using PIf_ite (S0_close ihc.1 closer_then (Tt ++ kwElse :: (Te ++ rest))) (S0_close iht.1 closer_else (Te ++ rest))
    (ihe.1 rest e rest hfol ⟨rfl, rfl⟩)

theorem bin_node {k : Nat} {t : Tok} {mk : Expr → Expr → Expr} {l r : Expr} {Tl Tr : List Tok}
    (hop : binOpAt k t = some mk) (ihl : MR o k l Tl) (ihr : MR o (k + 1) r Tr) : MB o (mk l r) (Tl ++ t :: Tr) := by
  obtain ⟨h1, h5⟩ := binOpAt_range hop
  refine node (binOpAt_lvl hop l r) (by omega) (by omega) (ihl.2.append _) fun rest e' r' hfol hL => ?_
  rw [Lk_bin h1 h5] at hL
  rw [Pk_bin h1 h5]
  -- the right operand, parsed one level tighter, stops at `rest`
  have hr : PBin o (k + 1) (Tr ++ rest) r rest := PBin_of_Pk (by omega) (by omega) (S_stop ihr.1 hfol (by omega))
  have := ihl.1 (t :: (Tr ++ rest)) e' r' (.cons (binOpAt_folTok hop)) (by rw [Lk_bin h1 h5]; exact LBin_step hop hr hL)
  rw [Pk_bin h1 h5] at this
  simpa using this

theorem PIdx_before_member {a : Expr} {Ta : List Tok} {t : Tok} (h : S o 8 a Ta) (ht : t = kwContains ∨ t = kwIn)
    (rest : List Tok) : PIdx o (Ta ++ t :: rest) a (t :: rest) :=
  h _ a _ (.cons (folTok8 (by rcases ht with rfl | rfl <;> decide)))
    (LIdx_stop fun e => by rcases ht with rfl | rfl <;> cases e)

/-- `a contains b` / `b in a`: two postfix phrases around the keyword `t`; what follows need only end the second -/
theorem member_parse {a b x : Expr} {Ta Tb rest : List Tok} {t : Tok} (ht : t = kwContains ∨ t = kwIn) (iha : MR o 8 a Ta)
    (hb : PIdx o (Tb ++ rest) b rest)
    (hP : ∀ {ts r1 r2}, PIdx o ts a (t :: r1) → PIdx o r1 b r2 → PContTail o ts x r2) :
    PCont o (Ta ++ t :: (Tb ++ rest)) x rest :=
  PCont_tail ((iha.2.append _).noUnary (Nat.le_refl 8))
    (hP (PIdx_before_member iha.1 ht _) hb)

theorem member_node {a b x : Expr} {Ta Tb : List Tok} {t : Tok} (ht : t = kwContains ∨ t = kwIn) (hl : lvl x = 6)
    (iha : MR o 8 a Ta) (ihb : MR o 8 b Tb)
    (hP : ∀ {ts r1 r2}, PIdx o ts a (t :: r1) → PIdx o r1 b r2 → PContTail o ts x r2) : MB o x (Ta ++ t :: Tb) :=
  node hl (by omega) (by omega) ((iha.2.mono (by omega)).append _) fun rest _ _ hfol ⟨rfl, rfl⟩ => by
    change PCont o _ _ _
    simpa using member_parse ht iha (S_stop ihb.1 hfol (by omega)) hP

/-- `up 6 = 8` passes 7, so here `S` at 7 is `pUnary`, `S` at 6 the dispatch of `pContains` on the first token
    (`PCont_unary`), and only from 6 down `S_descend` -/
theorem unary_node {e x : Expr} {t : Tok} {T : List Tok} (ht : t = minus ∨ t = bang) (hl : lvl x = 7)
    (hP : ∀ {r r'}, PUn o r e r' → PUn o (t :: r) x r') (ih : MR o 7 e T) : MB o x (t :: T) := by
  have hF : FirstGE 7 (t :: T) :=
    ⟨t, rfl, fun _ => by rcases ht with rfl | rfl <;> decide, fun h8 => absurd h8 (by omega),
      by rcases ht with rfl | rfl <;> decide⟩
  have hun : ∀ rest, Fol 7 rest → PUn o (t :: (T ++ rest)) x rest := fun rest hfol =>
    hP (ih.1 rest e rest hfol ⟨rfl, rfl⟩)
  have hS7 : S o 7 x (t :: T) := by
    intro rest _ _ hfol ⟨rfl, rfl⟩
    exact hun rest hfol
  have hS6 : S o 6 x (t :: T) := by
    intro rest _ _ hfol ⟨rfl, rfl⟩
    exact PCont_unary ht (hun rest (hfol.mono (by omega)))
  refine ⟨fun k hk => ?_, hl ▸ hF⟩
  rw [hl] at hk
  by_cases h7 : k = 7
  · subst h7; exact hS7
  · exact S_descend (hF.mono (by omega)) (by omega) (by omega) hS6 k (by omega)

theorem paren_node {e : Expr} {T : List Tok} (k : Nat) (ih : MR o 0 e T) : MR o k e (lp :: (T ++ [rp])) :=
  ⟨atom_all (first_cons (by decide)) (fun rest _ => by simpa using PTerm_paren (S0_close ih.1 closer_rp rest)) k,
    first_cons (by decide)⟩

theorem R_parses {k : Nat} {e : Expr} {T : List Tok} (h : R o k e T) : MR o k e T := by
  refine R.rec (motive_1 := fun e T _ => MB o e T) (motive_2 := fun k e T _ => MR o k e T)
    (motive_3 := fun xs T _ => ∀ rest, PVec o (T ++ rest) xs rest)
    (motive_4 := fun kvs T _ => ∀ rest, PMap o (T ++ rest) kvs rest)
    ?litTok ?litTrue ?litFalse ?litNone ?ref ?sym ?indexKey ?indexPos ?call ?func ?ite ?bin
    ?contains ?isIn ?neg ?not ?vec ?map ?bare ?paren ?lnil ?llast ?lcons ?mnil ?mlast ?mcons h
  case litTok => exact fun _ _ _ ht h => atom rfl (first_lit ht) fun _ _ => PTerm_lit ht h
  case litTrue => exact atom rfl (first_cons (by decide)) fun _ _ => PTerm_true
  case litFalse => exact atom rfl (first_cons (by decide)) fun _ _ => PTerm_false
  case litNone => exact atom rfl (first_cons (by decide)) fun _ h => PTerm_none h
  case ref => exact fun _ => atom rfl (first_cons (by simp [kwIf, minus, bang])) fun _ h => PTerm_ref h
  case sym => exact fun _ => atom rfl (first_cons (by decide)) fun _ _ => PTerm_sym
  case indexKey => exact fun _ _ _ _ ih => index_node rfl ih LIdx_key
  case indexPos => exact fun _ _ _ _ hn ih => index_node rfl ih (LIdx_pos hn)
  case call =>
    intro f _ _ _ ih
    refine atom rfl (first_cons (by simp [kwIf, minus, bang])) fun rest _ => ?_
    simpa using PTerm_call (s := f) (S0_close ih.1 closer_rp rest)
  case func => exact fun _ _ _ _ hk _ ih => func_node hk ih
  case ite => exact fun _ _ _ _ _ _ _ _ _ ihc iht ihe => ite_node ihc iht ihe
  case bin => exact fun _ _ _ _ _ _ _ _ _ hop _ _ ihl ihr => bin_node hop ihl ihr
  case contains => exact fun _ _ _ _ _ _ ihl ihr => member_node (.inl rfl) rfl ihl ihr PContTail_contains
  case isIn => exact fun _ _ _ _ _ _ ihl ihr => member_node (.inr rfl) rfl ihr ihl PContTail_in
  case neg => exact fun _ _ _ ih => unary_node (.inl rfl) rfl PUn_neg ih
  case not => exact fun _ _ _ ih => unary_node (.inr rfl) rfl PUn_not ih
  case vec => exact fun _ _ _ ih => atom rfl (first_cons (by decide)) fun rest _ => PTerm_vec (ih rest)
  case map => exact fun _ _ _ ih => atom rfl (first_cons (by decide)) fun rest _ => PTerm_map (ih rest)
  case bare => exact fun k _ _ hk _ ih => ⟨ih.1 k hk, ih.2.mono hk⟩
  case paren => exact fun k _ _ _ ih => paren_node k ih
  case lnil => exact fun _ => PVec_nil
  case llast =>
    intro _ _ _ ih rest
    simpa using PVec_last (ih.2.append _).noRb (S0_close ih.1 closer_rb rest)
  case lcons =>
    intro _ _ _ Ts _ _ ih ihs rest
    simpa using PVec_cons (ih.2.append _).noRb (S0_close ih.1 closer_comma (Ts ++ rest)) (ihs rest)
  case mnil => exact fun _ => PMap_nil
  case mlast =>
    intro k _ _ _ ih rest
    simpa using PMap_last (s := k) (S0_close ih.1 closer_rc rest)
  case mcons =>
    intro k _ _ _ Ts _ _ ih ihs rest
    simpa using PMap_cons (s := k) (S0_close ih.1 closer_comma (Ts ++ rest)) (ihs rest)

end RoundTrip
open RoundTrip

variable {o : Oracle}

/-- `contains` / `in` do not chain: the second keyword is an operator of no binary level, so every loop stops in front
    of it -/
theorem member_stops {a b x : Expr} {Ta Tb rest : List Tok} {t t2 : Tok} (ht : t = kwContains ∨ t = kwIn)
    (ht2 : t2 = kwContains ∨ t2 = kwIn) (ha : R o 8 a Ta) (hb : R o 8 b Tb)
    (hP : ∀ {ts r1 r2}, PIdx o ts a (t :: r1) → PIdx o r1 b r2 → PContTail o ts x r2) :
    PIf o (Ta ++ t :: (Tb ++ t2 :: rest)) x (t2 :: rest) :=
  have sa := R_parses ha
  PIf_of_bin (((sa.2.mono (by omega : 1 ≤ 8)).append _).noIf (Nat.le_refl 1))
    (PBin_of_PCont
      (fun k _ e => by obtain rfl := Option.some.inj e; rcases ht2 with rfl | rfl <;> exact binOpAt_notin (by decide) k)
      (member_parse ht sa (PIdx_before_member (R_parses hb).1 ht2 _) hP) 5 1 rfl)

/-- **parse ∘ render = id** at the token level, with the parentheses the table requires and any redundant ones -/
theorem parse_render {e : Expr} {T : List Tok} (h : R o 0 e T) : PIf o T e [] := by
  have : PIf o (T ++ []) e [] := (R_parses h).1 [] e [] .nil ⟨rfl, rfl⟩
  rwa [List.append_nil] at this

end Reval.G
