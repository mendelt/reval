/-
  Lemmas/NoneType.lean — for C03 (no coercion) and C04 (None propagation): the readings of the table (an unsupported operand
  type is a type error — for pairs `tableBin_unsupported`, in Table.lean; a None operand falls through to the operator's None rule); `Value.peq` across types; the
  one-step readings of `eval` given the outcomes of the operands.
-/
import RevalModel.Lemmas.Table

namespace Reval

theorem ty_none_iff (v : Value) : v.ty = .none ↔ v = .none := by cases v <;> simp [Value.ty]

theorem tableUn_unsupported (o : Oracle) (op : UnOp) (v : Value) (hv : v ≠ .none) (h : v.ty ∉ op.sig) :
    tableUn o op v = .err .invalidType := by
  have hv' : v.ty ≠ .none := fun e => hv ((ty_none_iff v).1 e)
  unfold tableUn
  rw [if_neg h, if_neg hv']

/-- what the rule returns where it applies: for `collFalse` that is a None *collection* only (a None item is an ordinary
    operand), the side condition of `applyBin_none` -/
def NoneRule.result : NoneRule → Res Value
  | .propagate => .ok .none
  | _ => .ok (.bool false)

theorem sig_none : ∀ op ∈ BinOp.all, ∀ t ∈ Ty.all,
    (Ty.none, t) ∉ op.sig ∧ (op.noneRule ≠ .collFalse → (t, Ty.none) ∉ op.sig) := by decide

/-- no signature lists a None operand (`sig_none`; but for the item of a membership test), so it falls through to the
    operator's None rule, whatever the other operand is -/
theorem applyBin_none (o : Oracle) (op : BinOp) (v : Value) :
    applyBin o op .none v = op.noneRule.result ∧
    (op.noneRule ≠ .collFalse → applyBin o op v .none = op.noneRule.result) := by
  have hs := sig_none op (BinOp.mem_all op) v.ty (Ty.mem_all _)
  have hn : Value.none.ty = .none := rfl
  simp only [applyBin_eq_table, tableBin, hn, if_neg hs.1, true_or, or_true, if_true]
  refine ⟨by cases op.noneRule <;> rfl, fun h => ?_⟩
  rw [if_neg (hs.2 h)]
  cases hr : op.noneRule <;> first | rfl | exact absurd hr h

theorem peq_diff_ty (a b : Value) (h : a.ty ≠ b.ty) : Value.peq a b = false := by
  cases a <;> cases b <;> first | rfl | exact absurd rfl h

theorem eval_lit (env : Env) (rp : List Nat) (v : Value) (st : St) : eval env rp (.lit v) st = (.ok v, st, []) := by
  simp [eval]

/-- (this and `eval_bin_lit` are kept in this form; nothing below uses them) -/
theorem eval_un_lit (env : Env) (rp : List Nat) (op : UnOp) (v : Value) (st : St) :
    eval env rp (.un op (.lit v)) st = (applyUn env.oracle op v, st, []) := by
  simp [eval]

theorem eval_bin_lit (env : Env) (rp : List Nat) (op : BinOp) (a b : Value) (st : St) :
    eval env rp (.bin op (.lit a) (.lit b)) st = (applyBin env.oracle op a b, st, []) := by
  simp [eval]

theorem eval_eq_ok (env : Env) (rp : List Nat) (l r : Expr) (a b : Value) (st st1 st2 : St) (ev ev2 : List Event)
    (hl : eval env (0 :: rp) l st = (.ok a, st1, ev)) (ha : a ≠ .none)
    (hr : eval env (1 :: rp) r st1 = (.ok b, st2, ev2)) :
    eval env rp (.eq l r) st = (.ok (.bool (Value.peq a b)), st2, ev ++ ev2) ∧
    eval env rp (.neq l r) st = (.ok (.bool (!Value.peq a b)), st2, ev ++ ev2) := by
  simp only [eval, hl]
  cases a <;> first | exact absurd rfl ha | simp only [hr, and_self]

theorem eval_ite_nonbool (env : Env) (rp : List Nat) (c t e : Expr) (st st1 : St) (ev : List Event) (v : Value)
    (h : eval env (0 :: rp) c st = (.ok v, st1, ev)) (hv : v.ty ≠ .bool) :
    eval env rp (.ite c t e) st = (.err .invalidType, st1, ev) := by
  simp only [eval, h]
  cases v <;> first | exact absurd rfl hv | rfl

theorem eval_nonbool_left (env : Env) (rp : List Nat) (l r : Expr) (st st1 : St) (ev : List Event) (v : Value)
    (h : eval env (0 :: rp) l st = (.ok v, st1, ev)) (hv : v.ty ≠ .bool) :
    eval env rp (.and l r) st = (.err .invalidType, st1, ev) ∧ eval env rp (.or l r) st = (.err .invalidType, st1, ev) := by
  simp only [eval, h]
  cases v <;> first | exact absurd rfl hv | exact ⟨rfl, rfl⟩

theorem eval_and_nonbool_right (env : Env) (rp : List Nat) (l r : Expr) (st st1 st2 : St) (ev ev2 : List Event) (v : Value)
    (hl : eval env (0 :: rp) l st = (.ok (.bool true), st1, ev)) (h : eval env (1 :: rp) r st1 = (.ok v, st2, ev2))
    (hv : v.ty ≠ .bool) : eval env rp (.and l r) st = (.err .invalidType, st2, ev ++ ev2) := by
  simp only [eval, hl, h]
  cases v <;> first | exact absurd rfl hv | rfl

theorem eval_or_nonbool_right (env : Env) (rp : List Nat) (l r : Expr) (st st1 st2 : St) (ev ev2 : List Event) (v : Value)
    (hl : eval env (0 :: rp) l st = (.ok (.bool false), st1, ev)) (h : eval env (1 :: rp) r st1 = (.ok v, st2, ev2))
    (hv : v.ty ≠ .bool) : eval env rp (.or l r) st = (.err .invalidType, st2, ev ++ ev2) := by
  simp only [eval, hl, h]
  cases v <;> first | exact absurd rfl hv | rfl

end Reval
