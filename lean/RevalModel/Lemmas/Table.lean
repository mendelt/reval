/-
  Lemmas/Table.lean — the implementation-shaped operators equal the declarative operator table:
  `applyBin = tableBin`, `applyUn = tableUn`.  Both are finite tables over (operator, operand constructors); each
  cell is checked by evaluation.
-/
import RevalModel.Spec.OperatorTable

namespace Reval

section bin
variable (o : Oracle)

local macro "table_bin" f:ident a:ident b:ident : tactic =>
  `(tactic| (cases $a:ident <;> cases $b:ident <;>
      simp [$f:ident, tableBin, BinOp.sig, BinOp.noneRule, cellBin, intCell, floatCell, decCell, boolCell, cmpInt,
            Value.ty, ofOpt, Ty.all] <;> (try split) <;> simp_all))

/-- the pairs of operand types for which `cellBin` has an arm — copied by hand from `cellBin`.  If `cellBin` gains an arm
    that is missing here, `sig_cellArm` fails as soon as a signature lists the pair; an entry too many only makes
    `applyBin_eq_table` look the pair up in the signatures.  (Not computed from the signatures: evaluated at the 81 pairs
    without a cell, thirteen lookups each double the cost of `applyBin_eq_table`.) -/
def cellArm : Ty → Ty → Bool
  | .int, .int | .float, .float | .dec, .dec | .bool, .bool | .dateTime, .duration | .dateTime, .dateTime
  | .duration, .duration | .map, .str | .str, .str | .vec, _ => true
  | _, _ => false

theorem sig_cellArm : ∀ op ∈ BinOp.all, ∀ s ∈ Ty.all, ∀ t ∈ Ty.all, (s, t) ∈ op.sig → cellArm s t = true := by
  decide +kernel

theorem not_mem_sig {op : BinOp} {s t : Ty} (h : cellArm s t = false) : (s, t) ∉ op.sig :=
  fun hm => Bool.noConfusion (h.symm.trans (sig_cellArm op (BinOp.mem_all op) s (Ty.mem_all s) t (Ty.mem_all t) hm))

theorem tableBin_unsupported (op : BinOp) (a b : Value) (ha : a.ty ≠ .none) (hb : b.ty ≠ .none)
    (h : (a.ty, b.ty) ∉ op.sig) : tableBin o op a b = .err .invalidType := by
  unfold tableBin; rw [if_neg h]; split <;> simp [ha, hb]

theorem applyBin_eq_table (op : BinOp) (a b : Value) : applyBin o op a b = tableBin o op a b := by
  -- a pair without a cell is outside every signature (`not_mem_sig`, no lookup: it is the slow part).  Three kinds of pair:
  -- no cell and no None — the table's answer is the type error for every operator, known without evaluating it;
  -- no cell, a None — the None rule is evaluated; a cell — everything is evaluated
  cases a <;> cases b <;> first
    | (refine .trans ?_ (tableBin_unsupported o op _ _ Ty.noConfusion Ty.noConfusion (not_mem_sig rfl)).symm
       cases op <;> rfl)
    | (refine .trans ?_ (if_neg (not_mem_sig rfl)).symm; cases op <;> rfl)
    | (unfold tableBin; cases op <;> rfl)

end bin

section un
variable (o : Oracle)

local macro "table_un" f:ident v:ident : tactic =>
  `(tactic| (cases $v:ident <;>
      simp [$f:ident, tableUn, UnOp.sig, cellUn, Value.ty, ofOpt, Ty.all, Impl.mkDuration] <;> (try split) <;> simp_all))

/-- `datetime(Int)`, `duration(Int)`: the implementation tests the i64 range inside the scrutinee, the table outside.
    For `exact`, not `rw` (the `match` is this lemma's own matcher). -/
theorem ofOpt_ite (c : Prop) [Decidable c] (r : Option Int) (e : Err) (mk : Int → Value) :
    (match (if c then r else none) with | some t => Res.ok (mk t) | none => .err e) = if c then ofOpt r e mk else .err e := by
  split <;> split <;> simp_all [ofOpt]

theorem applyUn_eq_table (op : UnOp) (v : Value) : applyUn o op v = tableUn o op v := by
  cases op <;> cases v
  case dateTime.int | duration.int => exact ofOpt_ite ..
  all_goals rfl

end un

theorem applyBin_cases {Q : Res Value → Prop} {o : Oracle} {op : BinOp} {a b : Value} (cell : Q (cellBin o op a b))
    (isNone : Q (.ok .none)) (isFalse : Q (.ok (.bool false))) (typeErr : Q (.err .invalidType)) : Q (applyBin o op a b) := by
  rw [applyBin_eq_table]; unfold tableBin
  split
  · exact cell
  · split <;> split <;> assumption

theorem applyUn_cases {Q : Res Value → Prop} {o : Oracle} {op : UnOp} {v : Value} (cell : Q (cellUn o op v))
    (isNone : Q (.ok .none)) (typeErr : Q (.err .invalidType)) : Q (applyUn o op v) := by
  rw [applyUn_eq_table]; unfold tableUn
  split
  · exact cell
  · split <;> assumption

end Reval
