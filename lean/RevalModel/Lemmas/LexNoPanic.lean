/-
  Lemmas/LexNoPanic.lean — every token of every text is of the vocabulary `PTok`, so its text has the shape that makes the
  grammar actions' prefix slices safe (`TokWF`); hence `Expr::parse` / `Rule::parse` of any text never panic.
-/
import RevalModel.Lemmas.LexComplete
import RevalModel.Lemmas.ParserBasic

namespace Reval

theorem ptok_wf {t : Tok} {w : Str} (h : LexC.PTok t w) : TokWF t := by
  cases h <;> simp only [TokWF, List.length_cons, List.length_append] <;> try omega
  case strRaw body h => have := (LexC.scanStr_pos body _ h).1; omega

theorem lex_wf (s : Str) (ts : List Tok) (h : lex s = some ts) : AllWF ts := fun t ht => ptok_wf (LexC.lex_ptok s ts h t ht)

theorem parseExprText_noPanic (o : Oracle) (s : Str) : (parseExprText o s).isPanic = false := by
  unfold parseExprText
  split
  · rfl
  · rename_i ts h; exact parseToks_noPanic o ts (lex_wf s ts h)

/-- the only branch that can carry a panic is `pRule`'s, excluded by `tame_pRule` -/
theorem parseRuleText_noPanic (o : Oracle) (s : Str) : ∀ site, parseRuleText o s ≠ .panic site := by
  intro site h
  unfold parseRuleText at h
  split at h
  · cases h
  · rename_i ts hl
    have np := (tame_pRule o (ts.length + 2) ts []).2 (lex_wf s ts hl)
    split at h
    · cases h
    · rename_i x hx; exact np x hx
    · cases h
    · split at h
      · cases h
      · unfold RuleParse.assemble at h; split at h <;> cases h

end Reval
