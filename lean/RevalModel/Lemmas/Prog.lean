/-
  Lemmas/Prog.lean — the evaluator written once, as data.  `eval_rec` is a program over three steps: return a
  result, run one evaluation after another (anything but a value ends it), and the call node.  `prog` is that
  program; `eval`, `denote` and `evalK` are its three readings `run`, `pure` and `cps`.  What holds of every such
  program is proved by induction over the three steps, not over the fourteen kinds of expression.
  `callFn_cases` and `Prog.run_seq_cases` read the call step and the `seq` step once, for every property downstream.
  Of the bridges only `run_prog` is here: `pure_prog` is in Lemmas/Denote.lean (`denote` is written with the table),
  `Prog.cps` and `cps_prog` in Lemmas/Adequacy.lean (they need the resumption model).
-/
import RevalModel.Spec.Denote

namespace Reval

/-- `UserFunctions::call` has five outcomes: the function is unknown; a cache hit; a successful invocation of a
    cacheable function (stored) or of another one (not stored); a failed invocation (never stored) -/
theorem callFn_cases {Q : Res Value × St × List Event → Prop} {env : Env} {f : Str} {a : Value} {st : St}
    (unknown : lookup env.fns f = none → Q (.err (.unknownFn f), st, []))
    (hit : ∀ fm v, lookup env.fns f = some fm → fm.cacheable = true → cacheGet st.cache (f, a) = some v →
      Q (.ok v, st, []))
    (stored : ∀ fm v, lookup env.fns f = some fm → fm.cacheable = true → cacheGet st.cache (f, a) = none →
      fm.behave st.calls a = .ok v →
      Q (.ok v, ⟨((f, a), v) :: st.cache, st.calls + 1⟩, [.invoke f a st.calls (some v) true]))
    (invoked : ∀ fm v, lookup env.fns f = some fm → fm.cacheable = false → fm.behave st.calls a = .ok v →
      Q (.ok v, ⟨st.cache, st.calls + 1⟩, [.invoke f a st.calls (some v) false]))
    (failed : ∀ fm msg, lookup env.fns f = some fm → (fm.cacheable = true → cacheGet st.cache (f, a) = none) →
      fm.behave st.calls a = .error msg →
      Q (.err (.userFn f msg), ⟨st.cache, st.calls + 1⟩, [.invoke f a st.calls none false])) :
    Q (callFn env f a st) := by
  unfold callFn invokeFn
  split
  next h => exact unknown h
  next fm h =>
    split
    next hc =>
      split
      next v hv => exact hit fm v h hc hv
      next hv =>
        split
        next v hb => exact stored fm v h hc hv hb
        next msg hb => exact failed fm msg h (fun _ => hv) hb
    next hc =>
      split
      next v hb => exact invoked fm v h (Bool.eq_false_iff.2 hc) hb
      next msg hb => exact failed fm msg h (fun h => absurd h hc) hb

theorem cacheGet_cons {P : Str × Value → Value → Prop} {c : List ((Str × Value) × Value)} {k0 : Str × Value} {v0 : Value}
    (h0 : P k0 v0) (hc : ∀ k v, cacheGet c k = some v → P k v) : ∀ k v, cacheGet ((k0, v0) :: c) k = some v → P k v := by
  intro k v h
  simp only [cacheGet] at h
  split at h
  · next e => cases e; cases h; exact h0
  · exact hc k v h

abbrev Comp (α : Type) := St → Res α × St × List Event

/-- `Type 1`: `seq` quantifies over the type of the intermediate value.  Inside `namespace Prog`, `run` and `pure` are the
    readings below, not `Reval.run` / `Pure.pure`. -/
inductive Prog : Type → Type 1
  | ret {α : Type} (r : Res α) : Prog α
  | seq {α β : Type} (m : Prog α) (f : α → Prog β) : Prog β
  | call (rp : List Nat) (f : Str) (v : Value) : Prog Value

namespace Prog

def run (env : Env) : {α : Type} → Prog α → Comp α
  | _, .ret r, st => (r, st, [])
  | _, .seq m f, st =>
    match m.run env st with
    | (.ok a, st1, ev) => let o := (f a).run env st1; (o.1, o.2.1, ev ++ o.2.2)
    | (.err x, st1, ev) => (.err x, st1, ev)
    | (.panic s, st1, ev) => (.panic s, st1, ev)
    | (.frontier p a, st1, ev) => (.frontier p a, st1, ev)
  | _, .call rp f v, st => let o := callFn env f v st; (o.1, o.2.1, .reach rp f v :: o.2.2)

def pure (env : Env) : {α : Type} → Prog α → Res α
  | _, .ret r => r
  | _, .seq m f => (m.pure env).bind fun a => (f a).pure env
  | _, .call _ f v => callPure env f v

/-- the `seq` step has two outcomes: `m` returned a value and `f` ran on it, its events after those of `m`; or `m` ended the
    evaluation.  `stop` says in three ways that `r` is `m`'s non-value outcome at the other type, one for each kind of client:
    no value (sites, range); the same panic flag (range, which includes "no panic"); that outcome bound to any `g` (the
    denotation) -/
theorem run_seq_cases {env : Env} {α β : Type} {m : Prog α} {f : α → Prog β} {st : St}
    {Q : Res β × St × List Event → Prop}
    (ok : ∀ a, (m.run env st).1 = .ok a →
      Q (((f a).run env (m.run env st).2.1).1, ((f a).run env (m.run env st).2.1).2.1,
        (m.run env st).2.2 ++ ((f a).run env (m.run env st).2.1).2.2))
    (stop : ∀ r : Res β, (∀ b, r ≠ .ok b) → r.isPanic = (m.run env st).1.isPanic → (∀ g, (m.run env st).1.bind g = r) →
      Q (r, (m.run env st).2.1, (m.run env st).2.2)) :
    Q ((m.seq f).run env st) := by
  simp only [run]
  split <;> rename_i heq <;> simp only [heq] at ok stop
  · exact ok _ rfl
  all_goals exact stop _ nofun rfl fun _ => rfl

end Prog

mutual
def prog (env : Env) : List Nat → Expr → Prog Value
  | _, .lit v => .ret (.ok v)
  | _, .ref n => .ret (reference env n)
  | _, .sym n => .ret (symbol env n)
  | rp, .index e i => .seq (prog env (0 :: rp) e) fun v => .ret (Impl.index v i)
  | rp, .call f a => .seq (prog env (0 :: rp) a) (.call rp f)
  | rp, .ite c t e => .seq (prog env (0 :: rp) c) fun v =>
      match v with
      | .bool true => prog env (1 :: rp) t
      | .bool false => prog env (2 :: rp) e
      | _ => .ret (.err .invalidType)
  | rp, .and l r => .seq (prog env (0 :: rp) l) fun v =>
      match v with
      | .bool false => .ret (.ok (.bool false))
      | .bool true => .seq (prog env (1 :: rp) r) fun w =>
        match w with
        | .bool b => .ret (.ok (.bool b))
        | _ => .ret (.err .invalidType)
      | _ => .ret (.err .invalidType)
  | rp, .or l r => .seq (prog env (0 :: rp) l) fun v =>
      match v with
      | .bool true => .ret (.ok (.bool true))
      | .bool false => .seq (prog env (1 :: rp) r) fun w =>
        match w with
        | .bool b => .ret (.ok (.bool b))
        | _ => .ret (.err .invalidType)
      | _ => .ret (.err .invalidType)
  | rp, .eq l r => .seq (prog env (0 :: rp) l) fun a =>
      match a with
      | .none => .ret (.ok (.bool false))
      | a => .seq (prog env (1 :: rp) r) fun b => .ret (.ok (.bool (Value.peq a b)))
  | rp, .neq l r => .seq (prog env (0 :: rp) l) fun a =>
      match a with
      | .none => .ret (.ok (.bool true))
      | a => .seq (prog env (1 :: rp) r) fun b => .ret (.ok (.bool (!Value.peq a b)))
  | rp, .un op e => .seq (prog env (0 :: rp) e) fun v => .ret (applyUn env.oracle op v)
  | rp, .bin op l r =>
      .seq (prog env (0 :: rp) l) fun a => .seq (prog env (1 :: rp) r) fun b => .ret (applyBin env.oracle op a b)
  | rp, .vec xs => .seq (progList env rp 0 xs) fun vs => .ret (.ok (.vec vs))
  | rp, .map kvs => .seq (progMap env rp 0 kvs) fun vs => .ret (.ok (.map vs))
def progList (env : Env) : List Nat → Nat → List Expr → Prog (List Value)
  | _, _, [] => .ret (.ok [])
  | rp, i, e :: es =>
    .seq (prog env (i :: rp) e) fun v => .seq (progList env rp (i + 1) es) fun vs => .ret (.ok (v :: vs))
def progMap (env : Env) : List Nat → Nat → List (Str × Expr) → Prog (List (Str × Value))
  | _, _, [] => .ret (.ok [])
  | rp, i, (k, e) :: es =>
    .seq (prog env (i :: rp) e) fun v => .seq (progMap env rp (i + 1) es) fun vs => .ret (.ok ((k, v) :: vs))
end

/- Every induction along `prog` opens like this one.  `prog.mutual_induct` lists its motives in the order `prog`, `progMap`,
   `progList` (hence the order of the conjuncts) but its minor premises in the order of the definition: the fourteen
   kinds of expression, nil / cons of lists, nil / cons of maps; the `refine` names them.  In the three bridges a case
   needs as many `split`s as its node has nested `match`es (on the outcome of an operand, or on its value). -/
theorem run_prog (env : Env) :
    (∀ rp e, (prog env rp e).run env = eval env rp e) ∧
    (∀ rp i kvs, (progMap env rp i kvs).run env = evalMap env rp i kvs) ∧
    (∀ rp i es, (progList env rp i es).run env = evalList env rp i es) := by
  refine prog.mutual_induct _ _ _ ?lit ?ref ?sym ?index ?call ?ite ?and ?or ?eq ?neq ?un ?bin ?vec ?map ?nilL ?consL
    ?nilM ?consM
  all_goals
    intros; funext st
    simp only [prog, progList, progMap, Prog.run, eval, evalList, evalMap, *]
  -- both sides branch on the same evaluations and values: one step for each match on the way
  case index | un | call | vec | map => split <;> simp only [List.append_nil, *]
  case bin | consL | consM | ite =>
    split <;> simp only [*]
    split <;> simp only [Prog.run, List.append_nil, *]
  case eq | neq =>
    split <;> simp only [*]
    split <;> simp only [Prog.run, List.append_nil, *]
    split <;> simp only [*]
  case and | or =>
    split <;> simp only [*]
    split <;> simp only [Prog.run, List.append_nil, *]
    split <;> simp only [*]
    split <;> simp only [Prog.run, List.append_nil, *]

theorem eval_eq_run (env : Env) (rp : List Nat) (e : Expr) : eval env rp e = (prog env rp e).run env :=
  ((run_prog env).1 rp e).symm

end Reval
