/-
  Lemmas/Resolve.lean — access paths (C10, C04): `Impl.index` is `resolveStep`; `eval (pathExpr base steps)` is `resolve` of
  `base`'s value; `resolve` on appended paths, from None, into a scalar.
-/
import RevalModel.Spec.Denote

namespace Reval

theorem index_eq_resolveStep (v : Value) (i : Index) : Impl.index v i = resolveStep v i := by
  cases i <;> cases v <;> simp [Impl.index, resolveStep]

/-- `base` is evaluated at `List.replicate steps.length 0 ++ rp`: each of the `.index` nodes above it puts its operand at
    child 0 -/
theorem path_resolves (env : Env) (steps : List Index) :
    ∀ (rp : List Nat) (base : Expr) (st : St),
      eval env rp (pathExpr base steps) st =
        match eval env (List.replicate steps.length 0 ++ rp) base st with
        | (.ok v, st1, ev) => (resolve v steps, st1, ev)
        | other => other := by
  induction steps with
  | nil =>
    intro rp base st
    simp only [pathExpr, List.length_nil, List.replicate_zero, List.nil_append, resolve]
    rcases eval env rp base st with ⟨r, st1, ev⟩
    cases r <;> rfl
  | cons i rest ih =>
    intro rp base st
    simp only [pathExpr, ih, List.length_cons, List.replicate_succ, List.cons_append, eval, resolve]
    rcases eval env (0 :: (List.replicate rest.length 0 ++ rp)) base st with ⟨r, st1, ev⟩
    cases r <;> try rfl
    simp only [index_eq_resolveStep]
    cases resolveStep _ i <;> rfl

theorem resolve_append (v : Value) (s1 s2 : List Index) :
    resolve v (s1 ++ s2) = match resolve v s1 with
      | .ok w => resolve w s2
      | other => other := by
  induction s1 generalizing v with
  | nil => simp [resolve]
  | cons i rest ih =>
    simp only [List.cons_append, resolve]
    cases h : resolveStep v i <;> simp [ih]

theorem resolve_none (steps : List Index) : resolve .none steps = .ok .none := by
  induction steps with
  | nil => rfl
  | cons i rest ih => cases i <;> simpa [resolve, resolveStep] using ih

theorem resolve_scalar (v : Value) (i : Index) (rest : List Index)
    (hm : v.ty ≠ .map) (hv : v.ty ≠ .vec) (hn : v.ty ≠ .none) :
    resolve v (i :: rest) = .err .invalidType := by
  cases i <;> cases v <;> simp_all [resolve, resolveStep, Value.ty]

end Reval
