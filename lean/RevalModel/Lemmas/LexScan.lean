/-
  Lemmas/LexScan.lean — maximal munch, scanner by scanner: the text of a token, before a rest that cannot extend it, is
  taken whole by the scanner of `Lex.step` responsible for it.  For words and numbers "cannot extend" is `FolG`.
-/

import RevalModel.Impl.Lexer
import RevalModel.Lemmas.Strings

namespace Reval.LexC

open Reval Reval.Lex

/-! ### characters: membership in two classes gives every disequality -/

theorem ne_of_class {p : Char → Bool} {c d : Char} (hc : p c = true) (hd : p d = false) : c ≠ d :=
  fun e => by rw [e, hd] at hc; cases hc

theorem ne_of_not {p : Char → Bool} {c d : Char} (hc : p c = false) (hd : p d = true) : c ≠ d :=
  fun e => by rw [e, hd] at hc; cases hc

theorem not_of_sub {p q : Char → Bool} (hpq : ∀ c, p c = true → q c = true) {x : Char} (h : q x = false) : p x = false := by
  cases hp : p x
  · rfl
  · rw [hpq x hp] at h; cases h

/-- the order of characters as the order of their codes: what lets `omega` decide between character classes -/
theorem char_le_iff (a b : Char) : a ≤ b ↔ a.toNat ≤ b.toNat := by
  rw [Char.le_def]; exact UInt32.le_iff_toNat_le

/-- `White_Space` lies outside 33 … 132: its code points up to U+0020 are 9–13 and 32, the next one is U+0085 = 133 -/
theorem white_range {c : Char} (h : Str.isWhite c = true) : c.toNat ≤ 32 ∨ 133 ≤ c.toNat := by
  simp only [Str.isWhite, Bool.or_eq_true, Bool.and_eq_true, decide_eq_true_eq, beq_iff_eq] at h
  omega

theorem alpha_not_white {c : Char} (h : isAlpha c = true) : Str.isWhite c = false := by
  cases hw : Str.isWhite c
  · rfl
  · have := white_range hw
    simp only [isAlpha, Bool.or_eq_true, Bool.and_eq_true, decide_eq_true_eq, char_le_iff, Char.reduceToNat] at h
    omega

theorem digit_not_alpha_white {a : Char} (h : isDigit a = true) : isAlpha a = false ∧ Str.isWhite a = false := by
  simp only [isDigit, Bool.and_eq_true, decide_eq_true_eq] at h
  constructor
  · cases ha : isAlpha a
    · rfl
    · simp only [isAlpha, Bool.or_eq_true, Bool.and_eq_true, decide_eq_true_eq] at ha
      rcases ha with ha | ha <;> exact absurd (Char.le_trans ha.1 h.2) (by decide)
  · cases hw : Str.isWhite a
    · rfl
    · have := white_range hw
      simp only [char_le_iff, Char.reduceToNat] at h
      omega

theorem white_not_idc {c : Char} (h : Str.isWhite c = true) : isIdc c = false := by
  cases hi : isIdc c
  · rfl
  · simp only [isIdc, Bool.or_eq_true, beq_iff_eq] at hi
    rcases hi with (ha | hd) | rfl
    · rw [alpha_not_white ha] at h; cases h
    · rw [(digit_not_alpha_white hd).2] at h; cases h
    · exact absurd h (by decide)

theorem eol_white {c : Char} (h : isEol c = true) : Str.isWhite c = true := by
  simp only [isEol, Bool.or_eq_true, beq_iff_eq] at h
  rcases h with rfl | rfl <;> decide

/-- trap: `Str.isDigit` (Prim/DecTime.lean) and `Lex.isDigit` (Impl/Lexer.lean) are two definitions of one function; facts
    about one are passed where the other is expected (`showNat_spec` into `DecParts`, `intBody_showInt`, `lexShow_index`),
    which Lean accepts by unfolding both.  Nothing uses this lemma. -/
theorem isDigit_eq (c : Char) : Str.isDigit c = Lex.isDigit c := rfl

theorem digit_idc {c : Char} (h : isDigit c = true) : isIdc c = true := by simp [isIdc, h]

theorem digit_nosign {a : Char} (h : isDigit a = true) : a ≠ '+' ∧ a ≠ '-' :=
  ⟨ne_of_class h (by decide), ne_of_class h (by decide)⟩

theorem hex_idc {c : Char} (h : isHex c = true) : isIdc c = true := by
  simp only [isHex, Bool.or_eq_true, Bool.and_eq_true, decide_eq_true_eq] at h
  simp only [isIdc, isAlpha, Bool.or_eq_true, Bool.and_eq_true, decide_eq_true_eq, beq_iff_eq]
  rcases h with (h | h) | h
  · exact Or.inl (Or.inr h)
  · exact Or.inl (Or.inl (Or.inl ⟨h.1, Char.le_trans h.2 (by decide)⟩))
  · exact Or.inl (Or.inl (Or.inr ⟨h.1, Char.le_trans h.2 (by decide)⟩))

theorem oct_idc {c : Char} (h : isOct c = true) : isIdc c = true := by
  simp only [isOct, Bool.and_eq_true, decide_eq_true_eq] at h
  simp only [isIdc, isDigit, Bool.or_eq_true, Bool.and_eq_true, decide_eq_true_eq, beq_iff_eq]
  exact Or.inl (Or.inr ⟨h.1, Char.le_trans h.2 (by decide)⟩)

theorem bin_idc {c : Char} (h : isBin c = true) : isIdc c = true := by
  simp only [isBin, Bool.or_eq_true, beq_iff_eq] at h
  rcases h with rfl | rfl <;> decide

/-! ### what the rest of a text begins with -/

/-- the head of `r`, if any, satisfies `P`.  `FolG`, `NumFree`, `KwText` and the hypotheses of `step_space`, `step_punct1`,
    `lexes_gap` spell this out; they and `Hd` pass for each other by unfolding -/
def Hd (P : Char → Prop) (r : Str) : Prop := ∀ c r', r = c :: r' → P c

theorem Hd.nil {P : Char → Prop} : Hd P [] := fun _ _ e => nomatch e

theorem Hd.cons {P : Char → Prop} {c : Char} {r : Str} (h : P c) : Hd P (c :: r) := fun _ _ e => by cases e; exact h

theorem Hd.imp {P Q : Char → Prop} {r : Str} (f : ∀ c, P c → Q c) (h : Hd P r) : Hd Q r := fun c r' e => f c (h c r' e)

theorem Hd.and {P Q : Char → Prop} {r : Str} (hp : Hd P r) (hq : Hd Q r) : Hd (fun c => P c ∧ Q c) r :=
  fun c r' e => ⟨hp c r' e, hq c r' e⟩

theorem Hd.append {P : Char → Prop} {D r : Str} (hD : ∀ a ∈ D, P a) (hr : D = [] → Hd P r) : Hd P (D ++ r) := by
  cases D with
  | nil => exact hr rfl
  | cons b D' => exact Hd.cons (hD b List.mem_cons_self)

/-! ### `countWhile p x` is the length of `x.takeWhile p` -/

theorem countWhile_eq (p : Char → Bool) (x : Str) : countWhile p x = (x.takeWhile p).length := by
  induction x with
  | nil => rfl
  | cons a x ih => simp only [countWhile, List.takeWhile_cons]; split <;> simp [ih]

theorem take_countWhile (p : Char → Bool) (x : Str) : x.take (countWhile p x) = x.takeWhile p := by
  induction x with
  | nil => rfl
  | cons a x ih => simp only [countWhile, List.takeWhile_cons]; split <;> simp [ih]

theorem drop_countWhile_eq (p : Char → Bool) (x : Str) : x.drop (countWhile p x) = x.dropWhile p := by
  induction x with
  | nil => rfl
  | cons a x ih => simp only [countWhile, List.dropWhile_cons]; split <;> simp [ih]

theorem takeWhile_hd {p : Char → Bool} {r : Str} (hr : Hd (p · = false) r) : r.takeWhile p = [] := by
  cases r with
  | nil => rfl
  | cons c r' => simp [hr c r' rfl]

theorem countWhile_le (p : Char → Bool) (x : Str) : countWhile p x ≤ x.length :=
  countWhile_eq p x ▸ (List.takeWhile_prefix p).length_le

theorem countWhile_zero {p : Char → Bool} {y : Str} (h : Hd (p · = false) y) : countWhile p y = 0 := by
  rw [countWhile_eq, takeWhile_hd h]; rfl

theorem takeWhile_append_stop (p : Char → Bool) (w r : Str) (hw : w.all p = true) (hr : Hd (p · = false) r) :
    (w ++ r).takeWhile p = w ∧ (w ++ r).dropWhile p = r := by
  have hw' := List.all_eq_true.mp hw
  rw [List.takeWhile_append_of_pos hw', List.dropWhile_append_of_pos hw', takeWhile_hd hr, Str.dropWhile_eq_self hr, List.append_nil]
  exact ⟨rfl, rfl⟩

theorem countWhile_append (p : Char → Bool) (w r : Str) (hw : w.all p = true) (hr : Hd (p · = false) r) :
    countWhile p (w ++ r) = w.length := by
  rw [countWhile_eq, (takeWhile_append_stop p w r hw hr).1]

theorem countWhile_append_le (p : Char → Bool) (x r : Str) (hr : Hd (p · = false) r) :
    countWhile p (x ++ r) ≤ x.length := by
  rw [countWhile_eq, List.takeWhile_append, takeWhile_hd hr]
  split
  · simp
  · exact (List.takeWhile_prefix p).length_le

theorem take_cw_all (p : Char → Bool) (x : Str) : (x.take (countWhile p x)).all p = true :=
  take_countWhile p x ▸ List.all_takeWhile

theorem take_cw_len (p : Char → Bool) (x : Str) : (x.take (countWhile p x)).length = countWhile p x := by
  rw [take_countWhile, countWhile_eq]

theorem take_cw_ne {p : Char → Bool} {x : Str} (h : 0 < countWhile p x) : x.take (countWhile p x) ≠ [] := by
  intro e
  have := congrArg List.length e
  rw [take_cw_len] at this; simp at this; omega

/-! ### the shapes of the numeric literals, and the sign -/

def IsSign (s : Str) : Prop := s = [] ∨ s = ['+'] ∨ s = ['-']

/-- `[0-9]*\.?[0-9]+` -/
inductive FracText : Str → Prop
  | int (ip : Str) (h : ip.all isDigit = true) (hne : ip ≠ []) : FracText ip
  | frac (ip fp : Str) (hi : ip.all isDigit = true) (hf : fp.all isDigit = true) (hne : fp ≠ []) : FracText (ip ++ '.' :: fp)

/-- `([eE][-+]?[0-9]+)?` -/
inductive ExpText : Str → Prop
  | none : ExpText []
  | some (e : Char) (sg ed : Str) (he : e = 'e' ∨ e = 'E') (hs : IsSign sg) (hd : ed.all isDigit = true) (hne : ed ≠ []) :
      ExpText (e :: (sg ++ ed))

structure FloatBody (b : Str) : Prop where
  parts : ∃ sg m x, b = sg ++ (m ++ x) ∧ IsSign sg ∧ FracText m ∧ ExpText x

structure DecBody (b : Str) : Prop where
  parts : ∃ sg m, b = sg ++ m ∧ IsSign sg ∧ FracText m

structure IntBody (b : Str) : Prop where
  parts : ∃ sg D, b = sg ++ D ∧ IsSign sg ∧ D.all isDigit = true ∧ D ≠ []

/-- `[+-]?`: `matchNum` and `matchExp` compute this first, inline as a `match`; `matchNum_eq` and `matchExp_eq` are the only
    bridge from them to `signLen` -/
def signLen : Str → Nat
  | '+' :: _ => 1
  | '-' :: _ => 1
  | _ => 0

theorem signLen_append (sg y : Str) (hs : IsSign sg) (hy : Hd (fun a => a ≠ '+' ∧ a ≠ '-') y) :
    signLen (sg ++ y) = sg.length := by
  rcases hs with rfl | rfl | rfl
  · simp only [List.nil_append, List.length_nil]
    unfold signLen
    split
    · exact absurd rfl (hy _ _ rfl).1
    · exact absurd rfl (hy _ _ rfl).2
    · rfl
  · rfl
  · rfl

theorem matchNum_eq (c : Char) (rest : Str) :
    matchNum c rest = if (c == 'i') = true then
        (if countWhile isDigit (rest.drop (signLen rest)) > 0 then some (signLen rest + countWhile isDigit (rest.drop (signLen rest))) else none)
      else (matchFrac (rest.drop (signLen rest))).bind (fun b =>
        if (c == 'f') = true then some (signLen rest + b + matchExp ((rest.drop (signLen rest)).drop b)) else some (signLen rest + b)) := by
  unfold matchNum
  simp only []
  split
  · rfl
  · show (match matchFrac (rest.drop (signLen rest)) with | none => none | some b => _) = _
    cases matchFrac (rest.drop (signLen rest)) <;> rfl

theorem matchExp_eq (c : Char) (r : Str) :
    matchExp (c :: r) = if (c == 'e' || c == 'E') = true then
      (if countWhile isDigit (r.drop (signLen r)) > 0 then 1 + signLen r + countWhile isDigit (r.drop (signLen r)) else 0) else 0 := rfl

theorem matchNum_sign (c : Char) (sg y : Str) (hs : IsSign sg) (hy : Hd (fun a => a ≠ '+' ∧ a ≠ '-') y) :
    matchNum c (sg ++ y) = if (c == 'i') = true then (if countWhile isDigit y > 0 then some (sg.length + countWhile isDigit y) else none)
      else (matchFrac y).bind (fun b => if (c == 'f') = true then some (sg.length + b + matchExp (y.drop b)) else some (sg.length + b)) := by
  rw [matchNum_eq, signLen_append sg y hs hy, List.drop_left]

theorem matchNum_nosign (c a : Char) (y : Str) (h1 : a ≠ '+') (h2 : a ≠ '-') :
    matchNum c (a :: y) = if (c == 'i') = true then (if countWhile isDigit (a :: y) > 0 then some (countWhile isDigit (a :: y)) else none)
      else (matchFrac (a :: y)).bind (fun b => if (c == 'f') = true then some (b + matchExp ((a :: y).drop b)) else some b) := by
  simpa using matchNum_sign c [] (a :: y) (Or.inl rfl) (Hd.cons ⟨h1, h2⟩)

/-- kept in this form; no user in the library -/
theorem matchNum_signed (c s : Char) (y : Str) (hs : s = '+' ∨ s = '-') :
    matchNum c (s :: y) = if (c == 'i') = true then (if countWhile isDigit y > 0 then some (1 + countWhile isDigit y) else none)
      else (matchFrac y).bind (fun b => if (c == 'f') = true then some (1 + b + matchExp (y.drop b)) else some (1 + b)) := by
  rcases hs with rfl | rfl <;> exact matchNum_eq c _

theorem matchNum_digit (c a : Char) (y : Str) (ha : isDigit a = true) :
    matchNum c (a :: y) = if (c == 'i') = true then some (countWhile isDigit (a :: y))
      else (matchFrac (a :: y)).bind (fun b => if (c == 'f') = true then some (b + matchExp ((a :: y).drop b)) else some b) := by
  have hpos : countWhile isDigit (a :: y) > 0 := by simp [countWhile, ha]
  simp only [matchNum_nosign c a y (digit_nosign ha).1 (digit_nosign ha).2, hpos, if_true]

/-! ### what may follow a word or a number -/

/-- not an identifier character (so not a digit), not a sign: what cannot extend a numeric literal past the end of a word.
    The general follower condition, implied by the printer's `Fol` (Lemmas/LexCompose.lean) and by the `Sep` of gapped
    text (Lemmas/LexLayout.lean) -/
def FolG (r : Str) : Prop := ∀ x r', r = x :: r' → isIdc x = false ∧ x ≠ '+' ∧ x ≠ '-'

theorem FolG.notIdc {r : Str} (h : FolG r) : Hd (isIdc · = false) r := Hd.imp (fun _ h => h.1) h

theorem notDigit_of_notIdc {c : Char} (h : isIdc c = false) : isDigit c = false :=
  not_of_sub (p := isDigit) (q := isIdc) (fun _ => digit_idc) h

theorem FolG.notDigit {r : Str} (h : FolG r) : Hd (isDigit · = false) r := h.notIdc.imp fun _ => notDigit_of_notIdc

theorem FolG.digits {r : Str} (h : FolG r) : countWhile isDigit r = 0 := countWhile_zero h.notDigit

def NoDot (r : Str) : Prop := Hd (· ≠ '.') r

def NoWhite (r : Str) : Prop := Hd (Str.isWhite · = false) r

theorem noWhite_cons {c : Char} {s : Str} (h : Str.isWhite c = false := by decide) : NoWhite (c :: s) := Hd.cons h

def StopFrac (r : Str) : Prop := Hd (fun c => isDigit c = false ∧ c ≠ '.') r

theorem FolG.stopFrac {r : Str} (h : FolG r) (hd : NoDot r) : StopFrac r := h.notDigit.and hd

/-! ### the number matchers on a text of the right shape -/

theorem matchFrac_none {y : Str} (h : StopFrac y) : matchFrac y = none := by
  have hk := countWhile_zero (h.imp fun _ h => h.1)
  simp only [matchFrac, hk, List.drop_zero]
  split
  · exact absurd rfl (h _ _ rfl).2
  · rfl

theorem hd_digits {D r : Str} {P : Char → Prop} (hD : D.all isDigit = true) (hP : ∀ a, isDigit a = true → P a)
    (hr : D = [] → Hd P r) : Hd P (D ++ r) :=
  Hd.append (fun a ha => hP a (List.all_eq_true.mp hD a ha)) hr

theorem matchFrac_text (m r : Str) (hm : FracText m) (hr : StopFrac r) : matchFrac (m ++ r) = some m.length := by
  cases hm with
  | int ip h hne =>
    have hk := countWhile_append isDigit m r h (hr.imp fun _ h => h.1)
    have hpos : 0 < m.length := List.length_pos_iff.mpr hne
    simp only [matchFrac, hk, List.drop_left']
    split
    · exact absurd rfl (hr _ _ rfl).2
    · simp [hpos]
  | frac ip fp hi hf hne =>
    have hk := countWhile_append isDigit ip ('.' :: (fp ++ r)) hi (Hd.cons (by decide))
    have hm := countWhile_append isDigit fp r hf (hr.imp fun _ h => h.1)
    have hfl : 0 < fp.length := List.length_pos_iff.mpr hne
    simp only [List.append_assoc, List.cons_append, matchFrac, hk, List.drop_left', hm, hfl, if_true, List.length_append, List.length_cons]
    simp; omega

theorem fracText_nosign {m : Str} (hm : FracText m) (r : Str) : Hd (fun a => a ≠ '+' ∧ a ≠ '-') (m ++ r) := by
  cases hm with
  | int ip h hne => exact hd_digits h (fun _ => digit_nosign) (fun e => absurd e hne)
  | frac ip fp hi hf hne =>
    rw [List.append_assoc]
    exact hd_digits hi (fun _ => digit_nosign) (fun _ => Hd.cons (by decide))

theorem matchExp_text (x r : Str) (hx : ExpText x) (hr : Hd (fun c => isDigit c = false ∧ (x = [] → c ≠ 'e' ∧ c ≠ 'E')) r) :
    matchExp (x ++ r) = x.length := by
  cases hx with
  | none =>
    cases r with
    | nil => rfl
    | cons c r' =>
      have := (hr c r' rfl).2 rfl
      simp [matchExp_eq, this.1, this.2]
  | some e sg ed he hs hd hne =>
    have hc : (e == 'e' || e == 'E') = true := by rcases he with rfl | rfl <;> rfl
    have hk := countWhile_append isDigit ed r hd (hr.imp fun _ h => h.1)
    have hpos : 0 < ed.length := List.length_pos_iff.mpr hne
    rw [List.cons_append, List.append_assoc, matchExp_eq,
      signLen_append sg _ hs (hd_digits hd (fun _ => digit_nosign) (fun e => absurd e hne)), List.drop_left, hk]
    simp [hc, hpos]; omega

theorem matchNum_int (b r : Str) (hb : IntBody b) (hr : Hd (isDigit · = false) r) :
    matchNum 'i' (b ++ r) = some b.length := by
  obtain ⟨sg, D, rfl, hs, hD, hne⟩ := hb.parts
  have hk := countWhile_append isDigit D r hD hr
  have hpos : 0 < D.length := List.length_pos_iff.mpr hne
  rw [List.append_assoc, matchNum_sign 'i' sg _ hs (hd_digits hD (fun _ => digit_nosign) (fun e => absurd e hne)), hk]
  simp [hpos]

theorem matchNum_dec (b r : Str) (hb : DecBody b) (hr : StopFrac r) : matchNum 'd' (b ++ r) = some b.length := by
  obtain ⟨sg, m, rfl, hs, hm⟩ := hb.parts
  rw [List.append_assoc, matchNum_sign 'd' sg _ hs (fracText_nosign hm r), matchFrac_text m r hm hr]
  simp

theorem matchNum_float (b r : Str) (hb : FloatBody b) (hr : StopFrac r) (he : Hd (fun c => c ≠ 'e' ∧ c ≠ 'E') r) :
    matchNum 'f' (b ++ r) = some b.length := by
  obtain ⟨sg, m, x, rfl, hs, hm, hx⟩ := hb.parts
  have hstop : StopFrac (x ++ r) := by
    cases hx with
    | none => exact hr
    | some e sg ed he hs hd hne =>
      exact Hd.cons (by rcases he with rfl | rfl <;> exact ⟨by decide, by decide⟩)
  have hex := matchExp_text x r hx ((hr.and he).imp fun _ h => ⟨h.1.1, fun _ => h.2⟩)
  rw [List.append_assoc, List.append_assoc, matchNum_sign 'f' sg _ hs (fracText_nosign hm _), matchFrac_text m _ hm hstop]
  simp [hex, Nat.add_assoc]

/-! ### a literal that ends inside a word ends there before every follower -/

theorem matchFrac_ge (s : Str) (h : 0 < countWhile isDigit s) : ∃ b, matchFrac s = some b ∧ countWhile isDigit s ≤ b := by
  simp only [matchFrac]
  split
  · split
    · exact ⟨_, rfl, by omega⟩
    · exact ⟨_, by simp, Nat.le_refl _⟩
  · exact ⟨_, by simp [h], Nat.le_refl _⟩

theorem matchNum_ge (c a : Char) (y : Str) (ha : isDigit a = true) :
    ∃ m, matchNum c (a :: y) = some m ∧ countWhile isDigit (a :: y) ≤ m := by
  rw [matchNum_digit c a y ha]
  obtain ⟨b, hb, hge⟩ := matchFrac_ge (a :: y) (by simp [countWhile, ha])
  rw [hb]
  by_cases hi : (c == 'i') = true
  · exact ⟨_, if_pos hi, Nat.le_refl _⟩
  · by_cases hf : (c == 'f') = true
    · exact ⟨_, by simp only [hi, hf, if_true, Bool.false_eq_true, if_false, Option.bind_some]; rfl, by omega⟩
    · exact ⟨_, by simp only [hi, hf, Bool.false_eq_true, if_false, Option.bind_some], hge⟩

/-- a run of digits before a text that continues no mantissa: the mantissa is the run; only a float looks further -/
theorem matchNum_mant (c : Char) (D y : Str) (hD : D.all isDigit = true) (hne : D ≠ []) (hy : StopFrac y) :
    matchNum c (D ++ y) = some (D.length + if (c == 'i') = true then 0 else if (c == 'f') = true then matchExp y else 0) := by
  have hpos : 0 < D.length := List.length_pos_iff.mpr hne
  have := matchNum_sign c [] (D ++ y) (Or.inl rfl) (hd_digits hD (fun _ => digit_nosign) (fun e => absurd e hne))
  rw [List.nil_append, countWhile_append isDigit D y hD (hy.imp fun _ h => h.1), matchFrac_text D y (.int D hD hne) hy] at this
  rw [this]
  cases c == 'i' <;> cases c == 'f' <;> simp [hpos, List.drop_left']

theorem countWhile_mono {p : Char → Bool} (y r r0 : Str) (hr : Hd (p · = false) r) :
    countWhile p (y ++ r) ≤ countWhile p (y ++ r0) := by
  simp only [countWhile_eq, List.takeWhile_append, takeWhile_hd hr]
  split <;> simp

/-- the key step of follower independence (`matchNum_short`) -/
theorem matchExp_le_of_folG (t : Char) (tl r r0 : Str) (htl : tl.all isIdc = true) (hr : FolG r) :
    matchExp (t :: (tl ++ r)) ≤ matchExp (t :: (tl ++ r0)) := by
  -- no sign follows `t`: the tail begins with an identifier character, or is empty and `r` follows
  have hs : signLen (tl ++ r) = 0 ∧ (tl ≠ [] → signLen (tl ++ r0) = 0) := by
    cases tl with
    | nil => exact ⟨signLen_append [] r (Or.inl rfl) (Hd.imp (fun _ h => h.2) hr), fun h => absurd rfl h⟩
    | cons u tl' =>
      have hu : isIdc u = true := List.all_eq_true.mp htl u List.mem_cons_self
      have := fun s => signLen_append [] (u :: tl' ++ s) (Or.inl rfl) (Hd.cons ⟨ne_of_class hu (by decide), ne_of_class hu (by decide)⟩)
      exact ⟨this r, fun _ => this r0⟩
  have hd := countWhile_mono (p := isDigit) tl r r0 hr.notDigit
  simp only [matchExp_eq, hs.1, List.drop_zero]
  split
  · split
    · rename_i ha
      cases tl with
      | nil => rw [List.nil_append, hr.digits] at ha; cases ha
      | cons u tl' => rw [hs.2 (by simp), List.drop_zero, if_pos (Nat.lt_of_lt_of_le ha hd)]; omega
    · exact Nat.zero_le _
  · exact Nat.le_refl _

/-- **follower independence**: a word `c · x` (`x` beginning with a digit) that is an identifier in front of SOME follower
    — the numeric literal starting at `c` ends inside the word — is one in front of every follower in `FolG` -/
theorem matchNum_short (c a : Char) (w r0 r : Str) (hw : (a :: w).all isIdc = true) (ha : isDigit a = true)
    (h0 : ∀ m, matchNum c (a :: w ++ r0) = some m → m < (a :: w).length) (hr : FolG r) :
    ∀ m, matchNum c (a :: w ++ r) = some m → m < (a :: w).length := by
  -- the word is a run of digits and, from its first non-digit `t` on, a tail
  have hx := List.takeWhile_append_dropWhile (p := isDigit) (l := a :: w)
  cases hdw : (a :: w).dropWhile isDigit with
  | nil =>
    -- all digits: before `r0` the literal covers the whole word
    exfalso
    obtain ⟨m0, hm0, hge⟩ := matchNum_ge c a (w ++ r0) ha
    have := h0 m0 hm0
    rw [hdw, List.append_nil] at hx
    have hf := countWhile_mono (p := isDigit) (a :: w) [] r0 Hd.nil
    rw [List.append_nil, countWhile_eq, hx, List.cons_append] at hf
    omega
  | cons t tl =>
    rw [hdw] at hx
    have hD : ((a :: w).takeWhile isDigit).all isDigit = true := List.all_takeWhile
    have hDne : (a :: w).takeWhile isDigit ≠ [] := by simp [ha]
    generalize (a :: w).takeWhile isDigit = D at hx hD hDne
    have ht : isDigit t = false := by simpa [hdw] using List.head_dropWhile_not isDigit (l := a :: w) (by simp [hdw])
    have hmem : ∀ x ∈ t :: tl, isIdc x = true := fun x hx' =>
      List.all_eq_true.mp hw x (hx ▸ List.mem_append_right _ hx')
    have htl : tl.all isIdc = true := List.all_eq_true.mpr fun x hx' => hmem x (List.mem_cons_of_mem _ hx')
    -- before any follower `s` the mantissa is `D`; only the exponent looks further
    have key : ∀ s, matchNum c (a :: w ++ s) = some (D.length +
        if (c == 'i') = true then 0 else if (c == 'f') = true then matchExp (t :: (tl ++ s)) else 0) := fun s => by
      rw [← hx, List.append_assoc]
      exact matchNum_mant c D _ hD hDne (Hd.cons ⟨ht, ne_of_class (hmem t List.mem_cons_self) (by decide)⟩)
    intro m hm
    rw [key r] at hm; cases hm
    -- … and before `r` it looks no further than before `r0`
    have hle := matchExp_le_of_folG t tl r r0 htl hr
    have h0' := h0 _ (key r0)
    revert h0'
    split
    · intro; omega
    · split <;> intro h0' <;> omega

/-! ### `step` by the class of the first character -/

theorem step_alpha {c : Char} (hc : isAlpha c = true) (s : Str) :
    step (c :: s) = some (some (stepWord c s).1, (stepWord c s).2) := by
  have h2 : c ≠ '/' := ne_of_class hc (by decide)
  simp [step, alpha_not_white hc, hc, h2]

theorem step_digit {a : Char} (ha : isDigit a = true) (s : Str) :
    step (a :: s) = some (some (stepDigit a s).1, (stepDigit a s).2) := by
  have hw := digit_not_alpha_white ha
  have h2 : a ≠ '/' := ne_of_class ha (by decide)
  simp [step, hw.1, hw.2, ha, h2]

theorem step_quote {s r : Str} {t : Tok} (h : stepString s = some (t, r)) : step ('"' :: s) = some (some t, r) := by
  simp [step, Str.isWhite, isAlpha, isDigit, h]

theorem punct1_class : ∀ c ∈ punct1, Str.isWhite c = false ∧ isAlpha c = false ∧ isDigit c = false ∧ c ≠ '"' := by decide

theorem step_punct {c : Char} (hc : c ∈ punct1) {s r : Str} {t : Tok} (hs : c = '/' → s.head? ≠ some '/')
    (h : stepPunct c s = some (t, r)) : step (c :: s) = some (some t, r) := by
  obtain ⟨h1, h2, h3, h4⟩ := punct1_class c hc
  have h5 : (c == '/' && s.head? == some '/') = false := by
    by_cases e : c = '/'
    · simpa [e] using hs e
    · simp [e]
  simp only [step, h1, h2, h3, h5, h]
  simp [h4]

/-! ### one lemma per scanner -/

theorem step_white {c : Char} (hc : Str.isWhite c = true) (cs : Str) : step (c :: cs) = some (none, cs.dropWhile Str.isWhite) := by
  simp [step, hc]

theorem step_comment (cs : Str) :
    step ('/' :: '/' :: cs) = some (none, (cs.dropWhile fun ch => !isEol ch).dropWhile isEol) := by
  simp [step, Str.isWhite]

theorem step_space (r : Str) (hr : ∀ c r', r = c :: r' → Str.isWhite c = false) : step (' ' :: r) = some (none, r) := by
  rw [step_white (by decide), Str.dropWhile_eq_self hr]

theorem punct2_mem {c d : Char} (h : punct2.contains [c, d] = true) : c ∈ ['=', '!', '>', '<'] ∧ d = '=' := by
  simp only [punct2, List.contains_iff_mem, List.mem_cons, List.not_mem_nil, or_false, List.cons.injEq, and_true] at h
  rcases h with ⟨rfl, rfl⟩ | ⟨rfl, rfl⟩ | ⟨rfl, rfl⟩ | ⟨rfl, rfl⟩ <;> exact ⟨by decide, rfl⟩

theorem step_punct1_gen {c : Char} (hc : c ∈ punct1) {r : Str}
    (hr : Hd (fun d => (c ∈ ['=', '!', '>', '<'] → d ≠ '=') ∧ (c = '/' → d ≠ '/')) r) :
    step (c :: r) = some (some (.p [c]), r) := by
  refine step_punct hc ?_ ?_
  · intro e; cases r with
    | nil => simp
    | cons d r' => simpa using (hr d r' rfl).2 e
  · have h1 : punct1.contains c = true := by simpa using hc
    cases r with
    | nil => simp only [stepPunct, h1, if_true]
    | cons d r' =>
      have h2 : punct2.contains [c, d] = false := by
        cases h : punct2.contains [c, d]
        · rfl
        · exact absurd (punct2_mem h).2 ((hr d r' rfl).1 (punct2_mem h).1)
      simp only [stepPunct, h1, h2, if_true, Bool.false_eq_true, if_false]

theorem step_punct2 (c : Char) (r : Str) (hc : c ∈ ['=', '!', '>', '<']) : step (c :: '=' :: r) = some (some (.p [c, '=']), r) := by
  have k := (by decide : ∀ c ∈ ['=', '!', '>', '<'], c ∈ punct1 ∧ c ≠ '/' ∧ punct2.contains [c, '='] = true) c hc
  exact step_punct k.1 (fun e => absurd e k.2.1) (by simp only [stepPunct, k.2.2, if_true])

theorem numPrefix_iff (c : Char) : (c == 'i' || c == 'f' || c == 'd') = true ↔ c = 'i' ∨ c = 'f' ∨ c = 'd' := by
  simp only [Bool.or_eq_true, beq_iff_eq, or_assoc]

theorem step_num (c : Char) (b r : Str) (hc : c = 'i' ∨ c = 'f' ∨ c = 'd') (hm : matchNum c (b ++ r) = some b.length)
    (hr : Hd (isIdc · = false) r) : step (c :: b ++ r) = some (some (mkNum c (c :: b)), r) := by
  have hg := (numPrefix_iff c).2 hc
  have hcw := countWhile_append_le isIdc b r hr
  rw [List.cons_append, step_alpha (by rcases hc with rfl | rfl | rfl <;> decide)]
  simp only [stepWord, hg, if_true, hm, ge_iff_le, hcw, List.take_left', List.drop_left']

/-- the token of a word already cut out -/
def wordOf (w : Str) : Tok := if keywords.contains w then .kw w else .ident w

theorem wordTok_eq (c : Char) (rest : Str) : wordTok c rest = wordOf (c :: rest.take (countWhile isIdc rest)) := rfl

/-- the word `c · rest` is not taken for a numeric literal `i… / f… / d…`: either its second character is not a digit
    (no literal starts), or the lexer itself, in front of some follower `r0`, found the literal to end inside the
    word (`i5x`, `f5e`, `d1_a`: what an identifier token produced by the lexer satisfies) -/
def NumFree (c : Char) (rest : Str) : Prop :=
  (c = 'i' ∨ c = 'f' ∨ c = 'd') → (∀ a rest', rest = a :: rest' → isDigit a = false) ∨
    (∃ a w r0, rest = a :: w ∧ isDigit a = true ∧ ∀ m, matchNum c (rest ++ r0) = some m → m < rest.length)

theorem NumFree.of_noDigit {c : Char} {rest : Str}
    (h : (c = 'i' ∨ c = 'f' ∨ c = 'd') → Hd (isDigit · = false) rest) : NumFree c rest :=
  fun hc => Or.inl (h hc)

/-- the expression `stepWord` matches on (the lemmas meet it there by unfolding) -/
def numAt (c : Char) (rest : Str) : Option Nat := if c == 'i' || c == 'f' || c == 'd' then matchNum c rest else none

/-- the numeric literal tried at the word `c · rest` before `r`, if any, ends inside the word (`NumFree`, a fixed text, says
    the same of `matchNum` before some follower) -/
def Short (c : Char) (rest r : Str) : Prop := ∀ n, numAt c (rest ++ r) = some n → n < rest.length

theorem Short.of_none {c : Char} {rest r : Str} (h : numAt c (rest ++ r) = none) : Short c rest r :=
  fun n hn => by rw [h] at hn; cases hn

/-- what the lexer saw before one rest `r0` is what `NumFree` records (`NumFree.short` takes it to every `FolG` rest) -/
theorem NumFree.of_short {c : Char} {rest r0 : Str} (h : Short c rest r0) : NumFree c rest := by
  intro hg
  cases rest with
  | nil => exact .inl nofun
  | cons a w =>
    by_cases ha : isDigit a = true
    · exact .inr ⟨a, w, r0, rfl, ha, fun m hm => h m (by rw [numAt, if_pos ((numPrefix_iff c).2 hg), hm])⟩
    · exact .inl fun _ _ e => by cases e; simpa using ha

theorem stepWord_word (c : Char) (rest r : Str) (hrest : rest.all isIdc = true) (hr : Hd (isIdc · = false) r)
    (hm : Short c rest r) :
    stepWord c (rest ++ r) = (wordOf (c :: rest), r) := by
  have hcw := countWhile_append isIdc rest r hrest hr
  simp only [stepWord, wordTok, wordOf, hcw, List.take_left', List.drop_left']
  split
  · rename_i n hn
    have := hm n hn
    rw [if_neg (by omega)]
  · rfl

theorem numAt_none (c : Char) (rest r : Str) (hrest : rest.all isIdc = true)
    (hnum : (c = 'i' ∨ c = 'f' ∨ c = 'd') → Hd (isDigit · = false) rest) (hr : FolG r)
    (hdot : rest = [] → c = 'f' ∨ c = 'd' → NoDot r) : numAt c (rest ++ r) = none := by
  unfold numAt
  split
  case isFalse => rfl
  rename_i hg
  have hg := (numPrefix_iff c).1 hg
  -- the first character after `c` is no digit, no sign and (unless `c = 'i'`) no dot
  have hd : Hd (fun a => isDigit a = false ∧ a ≠ '+' ∧ a ≠ '-' ∧ (c ≠ 'i' → a ≠ '.')) (rest ++ r) := by
    cases rest with
    | nil =>
      exact fun a y' e => ⟨hr.notDigit a y' e, (hr a y' e).2.1, (hr a y' e).2.2,
        fun hc => hdot rfl (hg.resolve_left hc) a y' e⟩
    | cons b rest' =>
      have hb : isIdc b = true := List.all_eq_true.mp hrest b List.mem_cons_self
      exact Hd.cons ⟨hnum hg b rest' rfl, ne_of_class hb (by decide), ne_of_class hb (by decide), fun _ => ne_of_class hb (by decide)⟩
  have := matchNum_sign c [] (rest ++ r) (Or.inl rfl) (hd.imp fun _ h => ⟨h.2.1, h.2.2.1⟩)
  rw [List.nil_append] at this
  rw [this, countWhile_zero (hd.imp fun _ h => h.1)]
  split
  · rfl
  · rename_i hi
    rw [matchFrac_none (hd.imp fun _ h => ⟨h.1, h.2.2.2 (by simpa using hi)⟩)]; rfl

/-- no literal starts, or (the second case of `NumFree`) it ends inside the word before every `FolG` follower -/
theorem NumFree.short {c : Char} {rest r : Str} (hnum : NumFree c rest) (hrest : rest.all isIdc = true) (hr : FolG r)
    (hdot : rest = [] → c = 'f' ∨ c = 'd' → NoDot r) : Short c rest r := by
  by_cases hg : c = 'i' ∨ c = 'f' ∨ c = 'd'
  · rcases hnum hg with ho | ⟨a, w, r0, rfl, ha, h0⟩
    · exact .of_none (numAt_none c rest r hrest (fun _ => ho) hr hdot)
    · intro n hn
      unfold numAt at hn
      split at hn
      · exact matchNum_short c a w r0 r hrest ha h0 hr n hn
      · cases hn
  · exact .of_none (numAt_none c rest r hrest (fun h => absurd h hg) hr hdot)

theorem step_word_gen (c : Char) (rest r : Str) (hc : isAlpha c = true) (hrest : rest.all isIdc = true) (hnum : NumFree c rest)
    (hr : FolG r) (hdot : rest = [] → c = 'f' ∨ c = 'd' → NoDot r) :
    step (c :: rest ++ r) = some (some (wordOf (c :: rest)), r) := by
  rw [List.cons_append, step_alpha hc, stepWord_word c rest r hrest hr.notIdc (hnum.short hrest hr hdot)]

theorem matchRadix_none {y : Str} (h : Hd (fun a => a ≠ 'x' ∧ a ≠ 'o' ∧ a ≠ 'b') y) : matchRadix y = none := by
  unfold matchRadix
  split
  · exact absurd rfl (h _ _ rfl).1
  · exact absurd rfl (h _ _ rfl).2.1
  · exact absurd rfl (h _ _ rfl).2.2
  · rfl

theorem step_index_gen (a : Char) (D r : Str) (ha : isDigit a = true) (hD : D.all isDigit = true)
    (hr : Hd (isIdc · = false) r) : step (a :: D ++ r) = some (some (.index (a :: D)), r) := by
  have hk := countWhile_append isDigit D r hD (hr.imp fun _ => notDigit_of_notIdc)
  have hrad : matchRadix (D ++ r) = none :=
    matchRadix_none (hd_digits hD
      (fun b hb => ⟨ne_of_class hb (by decide), ne_of_class hb (by decide), ne_of_class hb (by decide)⟩)
      (fun _ => hr.imp fun _ h => ⟨ne_of_not h (by decide), ne_of_not h (by decide), ne_of_not h (by decide)⟩))
  rw [List.cons_append, step_digit ha]
  simp only [stepDigit, hrad, ite_self, hk, List.take_left', List.drop_left']

/-- `x`, `p`, `mk`: radix letter, digit class, constructor; they enter through the arm of `matchRadix` they stand for
    (`hrad`, by `rfl` for each of the three) -/
theorem step_radix (x : Char) (p : Char → Bool) (mk : Str → Tok) (D r : Str)
    (hrad : ∀ s, matchRadix (x :: s) = if countWhile p s > 0 then some (1 + countWhile p s, mk) else none)
    (hx : isDigit x = false) (hD : D.all p = true) (hne : D ≠ []) (hp : ∀ c, p c = true → isIdc c = true)
    (hr : Hd (isIdc · = false) r) :
    step ('0' :: x :: D ++ r) = some (some (mk ('0' :: x :: D)), r) := by
  have hk := countWhile_append p D r hD (hr.imp fun _ => not_of_sub hp)
  have hpos : 0 < D.length := List.length_pos_iff.mpr hne
  have hcd : countWhile isDigit (x :: (D ++ r)) = 0 := countWhile_zero (Hd.cons hx)
  rw [List.cons_append, List.cons_append, step_digit (by decide)]
  simp only [stepDigit, beq_self_eq_true, if_true, hrad, hk, hpos, hcd, ge_iff_le, Nat.zero_le, Nat.add_comm 1, List.take_succ_cons,
    List.drop_succ_cons, List.take_left', List.drop_left']

theorem scanStr_cons {c : Char} (hc : c ≠ '\\') (r : Str) :
    scanStr (c :: r) = if c == '"' then some 1 else (scanStr r).map (· + 1) := by
  rw [scanStr.eq_def]
  split <;> simp_all

theorem scanStr_pos (s : Str) : ∀ n, scanStr s = some n → 1 ≤ n ∧ 1 ≤ s.length := by
  fun_induction scanStr s with
  | case1 | case2 | case3 => nofun
  | case4 c r _ ih | case6 c r _ _ _ ih =>
    intro n h
    obtain ⟨m, hm, rfl⟩ := Option.map_eq_some_iff.1 h
    exact ⟨by omega, by simp⟩
  | case5 => intro n h; cases h; exact ⟨Nat.le_refl _, by simp⟩

theorem scanStr_prefix (x : Str) : ∀ n, scanStr x = some n → n ≤ x.length ∧ ∀ r, scanStr (x.take n ++ r) = some n := by
  fun_induction scanStr x with
  | case1 | case2 | case3 => simp
  | case4 c r0 hc ih =>
    intro n h
    obtain ⟨m, hm, rfl⟩ := Option.map_eq_some_iff.1 h
    exact ⟨by have := (ih m hm).1; simp; omega, fun r => by simp [scanStr, hc, (ih m hm).2]⟩
  | case5 c r0 _ _ hq =>
    intro n h
    cases h
    obtain rfl : c = '"' := by simpa using hq
    exact ⟨by simp, fun r => by simp [scanStr]⟩
  | case6 c r0 hnb hq hnq ih =>
    intro n h
    have hc : c ≠ '\\' := fun e => by cases r0 <;> simp_all
    obtain ⟨m, hm, rfl⟩ := Option.map_eq_some_iff.1 h
    exact ⟨by have := (ih m hm).1; simp; omega, fun r => by simp [scanStr_cons hc, hnq, (ih m hm).2]⟩

theorem scanStr_append (x r : Str) : ∀ n, scanStr x = some n → scanStr (x ++ r) = some n := by
  intro n h
  have := (scanStr_prefix x n h).2 (x.drop n ++ r)
  rwa [← List.append_assoc, List.take_append_drop] at this

theorem step_str (body r : Str) (h : scanStr body = some body.length) :
    step ('"' :: body ++ r) = some (some (.str ('"' :: body)), r) := by
  rw [List.cons_append]
  exact step_quote (by simp only [stepString, scanStr_append body r _ h, List.take_left', List.drop_left'])

end Reval.LexC
