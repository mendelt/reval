/-
  Lemmas/Json.lean — whenever `ValueSerializer` succeeds on JSON-representable data, the JSON reading of the image is
  `serde_json`'s image of the same data (`json_all`, by the functional induction principle of `serialize`).
-/
import RevalModel.Spec.Json
import RevalModel.Lemmas.Outcome

namespace Reval

theorem Ser.keyString_ne_panic (k : SerVal) (s : Site) : Ser.keyString k ≠ .panic s := by
  cases k <;> simp [Ser.keyString]

theorem Ser.keyString_ok_iff (k : SerVal) (s : Str) : Ser.keyString k = .ok s ↔ k = .str s := by
  cases k <;> simp [Ser.keyString]

theorem Ser.keyString_str (s : Str) : Ser.keyString (.str s) = .ok s := rfl

namespace JsonSpec
open Reval Reval.Ser

theorem toJsonFields_insert (k : Str) (x : Value) (acc : List (Str × Value)) :
    toJsonFields (insertSorted k x acc) = insertSorted k (toJson x) (toJsonFields acc) := by
  fun_induction insertSorted k x acc <;> simp_all [toJsonFields, insertSorted]

/-- stated with the cast `(b : Int)`, the form in which `simp` meets it -/
theorem toJsonList_bytes (bs : List Nat) :
    toJsonList (bs.map (fun (b : Nat) => Value.int (b : Int))) =
      bs.map (fun (b : Nat) => if in64 (b : Int) then Json.int (b : Int) else .unrep) := by
  induction bs with
  | nil => simp [toJsonList]
  | cons b bs ih => simp only [List.map_cons, toJsonList, toJson, ih]

theorem json_all :
    (∀ v, JsonRep v = true → (serialize v).All (jsonOf v = toJson ·)) ∧
    (∀ fs acc, JsonRepFields fs = true →
      (serializeFields fs acc).All (jsonOfFields fs (toJsonFields acc) = toJsonFields ·)) ∧
    (∀ kvs acc, JsonRepEntries kvs = true →
      (serializeEntries kvs acc).All fun m => jsonOfEntries kvs (toJsonFields acc) = .obj (toJsonFields m)) ∧
    (∀ xs, JsonRepList xs = true → (serializeList xs).All (jsonOfList xs = toJsonList ·)) := by
  apply serialize.mutual_induct
  all_goals intros
  -- every arm by unfolding, as in `serialize_inRange_all` (Lemmas/SerRange.lean): both sides unfold alike.  The one arm with
  -- an idea is the map entry: a key that `keyString` accepts is a string (`keyString_ok_iff`), and the JSON side inserts the
  -- image of what the Value side inserts (`toJsonFields_insert`)
  all_goals
    simp_all [serialize, serializeList, serializeFields, serializeEntries, jsonOf, jsonOfList,
      jsonOfEntries, jsonOfFields, JsonRep, JsonRepList, JsonRepEntries, JsonRepFields,
      toJson, toJsonList, toJsonFields, toJsonFields_insert, toJsonList_bytes, Ser.keyString_ne_panic,
      Ser.keyString_ok_iff, Ser.keyString_str]
  -- what is left are the catch-all branches `other => other`, where the inner call did not succeed
  all_goals (unfold Res.All; split <;> simp_all)
end JsonSpec
end Reval
