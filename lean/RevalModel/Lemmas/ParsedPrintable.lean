/-
  Lemmas/ParsedPrintable.lean — every tree the parser returns for a text is one the printer can write and the lexer can
  read back: identifiers produced by the lexer are well-formed names (the literal-prefix corner `i5x`, `f5e`, `d1_a`
  through follower independence), literal tokens denote leaves whose printed token converts back, positional indices fit
  `u64`, map literals are collected maps.  Floats: by hypothesis on the float leaves of the tree.
-/

import RevalModel.Lemmas.LexComplete
import RevalModel.Lemmas.DisplayRT
import RevalModel.Lemmas.Ranges
import RevalModel.Lemmas.Sorted

namespace Reval.G
open Reval

/-! ### the map a map literal denotes (`BTreeMap` collect) -/

theorem collectMap_sorted (kvs : List (Str × Expr)) : KeysSorted (collectMap kvs) :=
  keysSorted_foldl kvs [] List.Pairwise.nil

theorem collectMap_idem (kvs : List (Str × Expr)) : collectMap (collectMap kvs) = collectMap kvs := by
  have := foldl_insert_eq_append (collectMap kvs) [] (by simpa using collectMap_sorted kvs)
  simpa [collectMap] using this

theorem mem_collectMap (kvs : List (Str × Expr)) (x : Str × Expr) (h : x ∈ collectMap kvs) : x ∈ kvs := by
  rcases mem_foldl_insert kvs [] x h with h | h
  · cases h
  · exact h

end Reval.G

namespace Reval.PP

open Reval Reval.Lex Reval.LexC Reval.G

def TokOK : Tok → Prop
  | .ident n => NameOK n
  | _ => True

theorem lex_tokOK (s : Str) (ts : List Tok) (h : lex s = some ts) : ∀ t ∈ ts, TokOK t := by
  intro t ht
  have := lex_ptok s ts h t ht
  -- only `.ident n` asks for something, and `PTok (.ident n) _` has the one constructor `PTok.ident`, which carries `NameOK n`
  cases t <;> first | trivial | (cases this; assumption)

mutual

def FloatLeaves (P : F64 → Prop) : Expr → Prop
  | .lit v => (match v with | .float f => P f | _ => True)
  | .ref _ => True
  | .sym _ => True
  | .call _ a => FloatLeaves P a
  | .index e _ => FloatLeaves P e
  | .ite c t e => FloatLeaves P c ∧ FloatLeaves P t ∧ FloatLeaves P e
  | .and l r => FloatLeaves P l ∧ FloatLeaves P r
  | .or l r => FloatLeaves P l ∧ FloatLeaves P r
  | .eq l r => FloatLeaves P l ∧ FloatLeaves P r
  | .neq l r => FloatLeaves P l ∧ FloatLeaves P r
  | .un _ e => FloatLeaves P e
  | .bin _ l r => FloatLeaves P l ∧ FloatLeaves P r
  | .vec xs => FloatLeavesL P xs
  | .map kvs => FloatLeavesM P kvs

def FloatLeavesL (P : F64 → Prop) : List Expr → Prop
  | [] => True
  | e :: es => FloatLeaves P e ∧ FloatLeavesL P es

def FloatLeavesM (P : F64 → Prop) : List (Str × Expr) → Prop
  | [] => True
  | (_, e) :: kvs => FloatLeaves P e ∧ FloatLeavesM P kvs

end

variable {o : Oracle} {sf : F64 → Str} {P : F64 → Prop}

/-- what is assumed of the decimal library for literals the model does not convert itself (more than 96 bits of digits
    or more than 28 fraction digits: `Decimal::from_str` rounds or fails): an accepted literal denotes a decimal in normal
    form.  (For the literals the model converts — the others — this is proved: `parseDecimal_wf`.) -/
def OracleDecOK (o : Oracle) : Prop :=
  ∀ b v, o .strToDec [.str b] = some (some v) → ∃ d, v = .dec d ∧ DecWF d

theorem parseRadix_inRange {r : Nat} {b : Str} {n : Int} (h : Lit.parseRadix r b = some n) : I128.inRange n = true := by
  unfold Lit.parseRadix at h
  split at h
  · cases h
  · split at h
    · exact I128.checked_inRange h
    · cases h

theorem ofTok_leaf (hdec : OracleDecOK o) (t : Tok) (v : Value) (x : List Tok) (hl : IsLitTok t) (h : Lit.ofTok o t = .ok v x)
    (hf : ∀ f, v = .float f → LitOK o sf (.float f) ∧ LitText sf (.float f)) : LitOK o sf v ∧ LitText sf v := by
  cases t <;> simp only [IsLitTok] at hl <;> simp only [Lit.ofTok] at h
  case str raw =>
    split at h
    · cases h
    · split at h
      · cases h; exact ⟨str_token_value o _, trivial⟩
      · cases h
  case int s =>
    split at h
    · cases h
    · split at h
      · rename_i n hn; cases h; exact ⟨int_token_value o n (parseI128_inRange hn), trivial⟩
      · cases h
  case hex s | oct s | bin s =>
    split at h
    · cases h
    · split at h
      · rename_i n hn; cases h; exact ⟨int_token_value o n (parseRadix_inRange hn), trivial⟩
      · cases h
  case float s =>
    split at h
    · cases h
    · cases h; exact hf _ rfl
  case dec s =>
    split at h
    · cases h
    · split at h
      · rename_i d hd; cases h; exact ⟨dec_token_value o d (parseDecimal_wf hd), trivial⟩
      · split at h
        · rename_i b v' hv
          cases h
          obtain ⟨d, rfl, hd⟩ := hdec _ _ hv
          exact ⟨dec_token_value o d hd, trivial⟩
        · cases h
        · cases h

section induction

variable (o) (sf) (P)

/-- what is proved of every parsed tree; `MB`, `MR`, `ML`, `MM` are the four motives of `G.R.rec` (for `Body`, `R`, `RList`,
    `RMap`): the same, for a derivation all of whose tokens are `TokOK` -/
def Good (e : Expr) : Prop := FloatLeaves P e → Printable o sf e ∧ TextOK sf e

def MB (e : Expr) (T : List Tok) : Prop := (∀ t ∈ T, TokOK t) → Good o sf P e

def MR (_k : Nat) (e : Expr) (T : List Tok) : Prop := MB o sf P e T

def ML (xs : List Expr) (T : List Tok) : Prop := (∀ t ∈ T, TokOK t) → FloatLeavesL P xs → PrintableL o sf xs ∧ TextOKL sf xs

/-- by membership, where `ML` is structural: `mem_collectMap` gives the `map` case membership only (`goodM` brings it back) -/
def MM (kvs : List (Str × Expr)) (T : List Tok) : Prop := (∀ t ∈ T, TokOK t) → ∀ kv ∈ kvs, NameOK kv.1 ∧ Good o sf P kv.2

end induction

theorem good_bin2 {l r : Expr} {mk : Expr → Expr → Expr}
    (hmk : mk = Expr.and ∨ mk = Expr.or ∨ mk = Expr.eq ∨ mk = Expr.neq ∨ ∃ op, mk = Expr.bin op)
    (hl : Good o sf P l) (hr : Good o sf P r) : Good o sf P (mk l r) := by
  intro hf
  rcases hmk with rfl | rfl | rfl | rfl | ⟨op, rfl⟩ <;>
    (simp only [FloatLeaves] at hf
     have a := hl hf.1
     have b := hr hf.2
     simp only [Printable, TextOK]
     exact ⟨⟨a.1, b.1⟩, a.2, b.2⟩)

theorem goodM : ∀ m : List (Str × Expr), (∀ kv ∈ m, NameOK kv.1 ∧ Good o sf P kv.2) → FloatLeavesM P m →
    PrintableM o sf m ∧ TextOKM sf m
  | [], _, _ => ⟨trivial, trivial⟩
  | (k, e) :: m, h, hf =>
    have a := (h (k, e) List.mem_cons_self).2 hf.1
    have b := goodM m (fun kv hkv => h kv (List.mem_cons_of_mem _ hkv)) hf.2
    ⟨⟨a.1, b.1⟩, (h (k, e) List.mem_cons_self).1, a.2, b.2⟩

/-- restriction to a part of the token list; which part, `simp` finds from the shape of the list -/
theorem restrict {T U : List Tok} (ht : ∀ t ∈ T, TokOK t) (h : ∀ t ∈ U, t ∈ T := by intro t h; simp [h]) :
    ∀ t ∈ U, TokOK t := fun t hu => ht t (h t hu)

variable (hdec : OracleDecOK o) (hP : ∀ f, P f → LitOK o sf (.float f) ∧ LitText sf (.float f))
include hdec hP

theorem parsed_good {k : Nat} {e : Expr} {T : List Tok} (h : R o k e T) : MR o sf P k e T := by
  refine @R.rec o (fun e T _ => MB o sf P e T) (fun k e T _ => MR o sf P k e T) (fun xs T _ => ML o sf P xs T)
    (fun kvs T _ => MM o sf P kvs T) ?litTok ?litTrue ?litFalse ?litNone ?ref ?sym ?indexKey ?indexPos ?call ?func ?ite ?bin
    ?contains ?isIn ?neg ?not ?vec ?map ?bare ?paren ?lnil ?llast ?lcons ?mnil ?mlast ?mcons k e T h
  case litTok =>
    intro t v x hl h _ hf
    refine ofTok_leaf hdec t v x hl h ?_
    intro f e; subst e
    exact hP f hf
  case litTrue | litFalse | litNone => intro _ _; simp [Printable, TextOK, LitOK, LitText]
  case ref | sym =>
    intro n ht _
    exact ⟨trivial, ht (.ident n) (by simp)⟩
  case indexKey =>
    intro e T k _ ih ht hf
    have a := ih (restrict ht) hf
    exact ⟨a.1, ht (.ident k) (by simp), a.2⟩
  case indexPos =>
    intro e T ds _ hle ih ht hf
    have a := ih (restrict ht) hf
    exact ⟨⟨a.1, hle⟩, a.2⟩
  case call =>
    intro f a T _ ih ht hf
    have x := ih (restrict ht) hf
    exact ⟨x.1, ht (.ident f) (by simp), x.2⟩
  case func =>
    intro k op e T _ _ ih ht hf
    exact ih (restrict ht) hf
  case ite =>
    intro c t e Tc Tt Te _ _ _ i1 i2 i3 ht hf
    have a := i1 (restrict ht) hf.1
    have b := i2 (restrict ht) hf.2.1
    have d := i3 (restrict ht) hf.2.2
    exact ⟨⟨a.1, b.1, d.1⟩, a.2, b.2, d.2⟩
  case bin =>
    intro k t mk l r Tl Tr _ _ hop _ _ i1 i2 ht
    exact good_bin2 (binOpAt_mk hop) (i1 (restrict ht)) (i2 (restrict ht))
  case contains | isIn =>
    intro l r Tl Tr _ _ i1 i2 ht
    exact good_bin2 (mk := Expr.bin .contains) (Or.inr (Or.inr (Or.inr (Or.inr ⟨_, rfl⟩))))
      (i1 (restrict ht)) (i2 (restrict ht))
  case neg | not =>
    intro e T _ ih ht hf
    exact ih (restrict ht) hf
  case vec => intro xs T _ ih ht; exact ih (restrict ht)
  case map =>
    intro kvs T _ ih ht hf
    have x := goodM _ (fun kv hkv => ih (restrict ht) kv (mem_collectMap kvs kv hkv)) hf
    exact ⟨⟨x.1, collectMap_idem kvs⟩, x.2⟩
  case bare => intro k e T _ _ ih; exact ih
  case paren => intro k e T _ ih ht; exact ih (restrict ht)
  case lnil => intro _ _; exact ⟨trivial, trivial⟩
  case llast =>
    intro e T _ ih ht hf
    have a := ih (restrict ht) hf.1
    exact ⟨⟨a.1, trivial⟩, a.2, trivial⟩
  case lcons =>
    intro e es T Ts _ _ i1 i2 ht hf
    have a := i1 (restrict ht) hf.1
    have b := i2 (restrict ht) hf.2
    exact ⟨⟨a.1, b.1⟩, a.2, b.2⟩
  case mnil => intro _ kv hkv; cases hkv
  case mlast =>
    intro k e T _ ih ht kv hkv
    simp only [List.mem_singleton] at hkv; subst hkv
    exact ⟨ht (.ident k) (by simp), ih (restrict ht)⟩
  case mcons =>
    intro k e es T Ts _ _ i1 i2 ht kv hkv
    rcases List.mem_cons.1 hkv with rfl | hkv
    · exact ⟨ht (.ident k) (by simp), i1 (restrict ht)⟩
    · exact i2 (restrict ht) kv hkv

end Reval.PP
