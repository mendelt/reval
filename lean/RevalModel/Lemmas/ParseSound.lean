/-
  Lemmas/ParseSound.lean — the converse of Lemmas/RoundTrip (and independent of it): whatever the parser accepts
  is a rendering under the precedence table.  If a parse function returns `.ok e r` on `ts` (at any fuel), then
  `ts = T ++ r` for a token list `T` that renders `e` at that function's level.
-/
import RevalModel.Lemmas.GrammarTable

namespace Reval.G
open Reval

structure Sound (o : Oracle) (f : Nat) : Prop where
  pIf : ∀ ts e r, pIf o f ts = .ok e r → ∃ T, ts = T ++ r ∧ R o 0 e T
  pBin : ∀ k ts e r, 1 ≤ k → k ≤ 6 → pBin o f k ts = .ok e r → ∃ T, ts = T ++ r ∧ R o k e T
  pBinLoop : ∀ k acc ts e r, 1 ≤ k → k ≤ 5 → pBinLoop o f k acc ts = .ok e r →
    ∀ Tacc, R o k acc Tacc → ∃ T', ts = T' ++ r ∧ R o k e (Tacc ++ T')
  pContains : ∀ ts e r, pContains o f ts = .ok e r → ∃ T, ts = T ++ r ∧ R o 6 e T
  pContainsTail : ∀ ts e r, pContainsTail o f ts = .ok e r → ∃ T, ts = T ++ r ∧ R o 6 e T
  pUnary : ∀ ts e r, pUnary o f ts = .ok e r → ∃ T, ts = T ++ r ∧ R o 7 e T
  pIndex : ∀ ts e r, pIndex o f ts = .ok e r → ∃ T, ts = T ++ r ∧ R o 8 e T
  pIndexLoop : ∀ acc ts e r, pIndexLoop o f acc ts = .ok e r →
    ∀ Tacc, R o 8 acc Tacc → ∃ T', ts = T' ++ r ∧ R o 8 e (Tacc ++ T')
  pTerm : ∀ ts e r, pTerm o f ts = .ok e r → ∃ T, ts = T ++ r ∧ R o 9 e T
  pVecItems : ∀ ts xs r, pVecItems o f ts = .ok xs r → ∃ T, ts = T ++ r ∧ RList o xs T
  pMapItems : ∀ ts kvs r, pMapItems o f ts = .ok kvs r → ∃ T, ts = T ++ r ∧ RMap o kvs T

theorem isLitTok_of_ok {o : Oracle} {t : Tok} {v : Value} {x : List Tok} (h : Lit.ofTok o t = .ok v x) : IsLitTok t := by
  cases t <;> first | trivial | simp [Lit.ofTok] at h

private theorem of_fail {α : Type} {x : PR α} {P : α → List Tok → Prop} (h : ∀ a r, x = .ok a r → False) :
    ∀ a r, x = .ok a r → P a r := fun a r e => (h a r e).elim
private theorem of_ok {α : Type} {P : α → List Tok → Prop} {a : α} {r : List Tok} (h : P a r) :
    ∀ a' r', PR.ok a r = .ok a' r' → P a' r' := fun _ _ e => by cases e; exact h

private theorem passed_on {o : Oracle} {j k : Nat} {ts r : List Tok} {e : Expr} (hjk : j ≤ k) (h : ∃ T, ts = T ++ r ∧ R o k e T) :
    ∃ T, ts = T ++ r ∧ R o j e T :=
  let ⟨T, hT, hR⟩ := h
  ⟨T, hT, R.weaken hR hjk⟩

/-- closes a branch that returns no `.ok`: another constructor, or the result of an inner call that failed -/
local macro "no_ok" : tactic => `(tactic| (refine of_fail ?_; first | assumption | (intro _ _ h; cases h; done)))

section
variable {o : Oracle} {f : Nat} (ih : Sound o f)
include ih

/- The induction step.  Each part lists the branches of its function with what each returns (`fun_cases`; `generalize`
   keeps the fuel a variable for it).  The branches that return no `.ok` have nothing to show; the others are the
   alternatives of the grammar, each derived by its `Body` rule from what the inner calls returned.

   (`tameAll_succ` and `agree_succ` walk the same bodies by nested `split` instead, since they speak of every result.)
   The cases are numbered in the order of the body, so a branch inserted into a function renumbers the later ones
   silently.  The production named after each `case` is the only guard — when a function changes, check each against
   its goal. -/
theorem sound_succ : Sound o (f + 1) where
  pIf := by
    intro ts
    generalize hn : f + 1 = n
    fun_cases Reval.pIf o n ts <;> cases hn
    all_goals try no_ok
    case case2 r0 c r1 t r2 e r5 he hc ht =>  -- if c then t else e
      obtain ⟨Tc, rfl, hRc⟩ := ih.pIf _ _ _ hc
      obtain ⟨Tt, rfl, hRt⟩ := ih.pIf _ _ _ ht
      obtain ⟨Te, rfl, hRe⟩ := ih.pIf _ _ _ he
      exact of_ok ⟨kwIf :: (Tc ++ kwThen :: (Tt ++ kwElse :: Te)), by simp [kwIf, kwThen, kwElse],
        R.own (Body.ite _ _ _ Tc Tt Te hRc hRt hRe)⟩
    all_goals exact fun e r h => passed_on (by omega) (ih.pBin 1 _ _ _ (by omega) (by omega) h)

  pBin := by
    intro k ts e r h1 h6; revert e r
    generalize hn : f + 1 = n
    fun_cases Reval.pBin o n k ts <;> cases hn
    all_goals try no_ok
    case case2 hk =>  -- level 6: ContainsExpr
      obtain rfl : k = 6 := by omega
      exact ih.pContains ts
    case case3 l r1 hk hl =>  -- operand, then the loop of level k
      intro e r h
      obtain ⟨T1, rfl, hR1⟩ := ih.pBin (k + 1) _ _ _ (by omega) (by omega) hl
      obtain ⟨T', rfl, hR'⟩ := ih.pBinLoop k l r1 e r h1 (by omega) h T1 (R.weaken hR1 (by omega))
      exact ⟨T1 ++ T', by simp, hR'⟩

  pBinLoop := by
    intro k acc ts e r h1 h5; revert e r
    generalize hn : f + 1 = n
    fun_cases Reval.pBinLoop o n k acc ts <;> cases hn
    all_goals try no_ok
    case case2 t r0 mk x r1 hop hx =>  -- op operand, and on
      intro e r h Tacc hacc
      obtain ⟨Tx, rfl, hRx⟩ := ih.pBin (k + 1) _ _ _ (by omega) (by omega) hx
      obtain ⟨T'', rfl, hR''⟩ := ih.pBinLoop k _ _ e r h1 h5 h _ (R.bin hop (Nat.le_refl k) hacc hRx)
      exact ⟨t :: (Tx ++ T''), by simp, by simpa using hR''⟩
    all_goals exact of_ok fun Tacc hacc => ⟨[], by simp, by simpa using hacc⟩

  pContains := by
    intro ts
    generalize hn : f + 1 = n
    fun_cases Reval.pContains o n ts <;> cases hn
    case case2 => exact fun e r h => passed_on (by omega) (ih.pUnary _ _ _ h)  -- starts with - or !
    all_goals exact ih.pContainsTail _

  pContainsTail := by
    intro ts
    generalize hn : f + 1 = n
    fun_cases Reval.pContainsTail o n ts <;> cases hn
    all_goals try no_ok
    case case2 l r1 x r2 hx hl =>  -- l contains x
      obtain ⟨Tl, rfl, hRl⟩ := ih.pIndex _ _ _ hl
      obtain ⟨Tx, rfl, hRx⟩ := ih.pIndex _ _ _ hx
      exact of_ok ⟨Tl ++ kwContains :: Tx, by simp [kwContains],
        R.own (Body.contains l x Tl Tx hRl hRx)⟩
    case case4 l r1 x r2 _ hx hl =>  -- x in l
      obtain ⟨Tl, rfl, hRl⟩ := ih.pIndex _ _ _ hl
      obtain ⟨Tx, rfl, hRx⟩ := ih.pIndex _ _ _ hx
      exact of_ok ⟨Tl ++ kwIn :: Tx, by simp [kwIn], R.own (Body.isIn x l Tx Tl hRx hRl)⟩
    all_goals exact of_ok (passed_on (by omega) (ih.pIndex _ _ _ ‹_›))

  pUnary := by
    intro ts
    generalize hn : f + 1 = n
    fun_cases Reval.pUnary o n ts <;> cases hn
    all_goals try no_ok
    case case2 r0 e r1 he =>  -- - e
      obtain ⟨T, rfl, hR⟩ := ih.pUnary _ _ _ he
      exact of_ok ⟨minus :: T, by simp [minus], R.own (Body.neg e T hR)⟩
    case case4 r0 e r1 _ he =>  -- ! e
      obtain ⟨T, rfl, hR⟩ := ih.pUnary _ _ _ he
      exact of_ok ⟨bang :: T, by simp [bang], R.own (Body.not e T hR)⟩
    all_goals exact fun e r h => passed_on (by omega) (ih.pIndex _ _ _ h)

  pIndex := by
    intro ts
    generalize hn : f + 1 = n
    fun_cases Reval.pIndex o n ts <;> cases hn
    case case3 => no_ok
    case case2 l r0 hl =>  -- Term, then the postfix loop
      intro e r h
      obtain ⟨Tl, rfl, hRl⟩ := ih.pTerm _ _ _ hl
      obtain ⟨T', rfl, hR'⟩ := ih.pIndexLoop l r0 e r h Tl (R.weaken hRl (by omega))
      exact ⟨Tl ++ T', by simp, hR'⟩

  pIndexLoop := by
    intro acc ts
    generalize hn : f + 1 = n
    fun_cases Reval.pIndexLoop o n acc ts <;> cases hn
    all_goals try no_ok
    case case2 k r1 =>  -- . IDENT
      intro e r h Tacc hacc
      obtain ⟨T'', rfl, hR''⟩ :=
        ih.pIndexLoop _ _ e r h _ (R.own (Body.indexKey acc Tacc k hacc))
      exact ⟨dot :: .ident k :: T'', by simp [dot], by simpa using hR''⟩
    case case3 ds r1 hds =>  -- . INDEX
      intro e r h Tacc hacc
      obtain ⟨T'', rfl, hR''⟩ :=
        ih.pIndexLoop _ _ e r h _ (R.own (Body.indexPos acc Tacc ds hacc hds))
      exact ⟨dot :: .index ds :: T'', by simp [dot], by simpa using hR''⟩
    all_goals exact of_ok fun Tacc hacc => ⟨[], by simp, by simpa using hacc⟩

  pTerm := by
    intro ts
    generalize hn : f + 1 = n
    fun_cases Reval.pTerm o n ts <;> cases hn
    all_goals try no_ok
    case case3 k r1 op hop e r3 he =>  -- func ( e )
      obtain ⟨T, rfl, hR⟩ := ih.pIf _ _ _ he
      exact of_ok ⟨.kw k :: lp :: (T ++ [rp]), by simp [lp, rp],
        R.bare 9 _ _ (Nat.le_of_eq (lvl_func hop e).symm) (Body.func k op e T hop hR)⟩
    case case6 => exact of_ok ⟨[_], rfl, R.own Body.litTrue⟩  -- true (
    case case7 => exact of_ok ⟨[_], rfl, R.own Body.litFalse⟩  -- false (
    case case9 => exact of_ok ⟨[_], rfl, R.own Body.litNone⟩  -- none
    case case10 => exact of_ok ⟨[_], rfl, R.own Body.litTrue⟩  -- true
    case case11 => exact of_ok ⟨[_], rfl, R.own Body.litFalse⟩  -- false
    case case13 x r1 e r3 he =>  -- IDENT ( e )
      obtain ⟨T, rfl, hR⟩ := ih.pIf _ _ _ he
      exact of_ok ⟨.ident x :: lp :: (T ++ [rp]), by simp [lp, rp], R.own (Body.call x e T hR)⟩
    case case16 x _ _ => exact of_ok ⟨[_], rfl, R.own (Body.ref x)⟩  -- IDENT
    case case17 x _ => exact of_ok ⟨[colon, .ident x], rfl, R.own (Body.sym x)⟩  -- : IDENT
    case case19 r0 e r3 _ he =>  -- ( e )
      obtain ⟨T, rfl, hR⟩ := ih.pIf _ _ _ he
      exact of_ok ⟨lp :: (T ++ [rp]), by simp [lp, rp], R.paren 9 _ T hR⟩
    case case22 r0 xs r1 _ _ hx =>  -- [ items
      obtain ⟨T, rfl, hR⟩ := ih.pVecItems _ _ _ hx
      exact of_ok ⟨.p ['['] :: T, rfl, R.own (Body.vec xs T hR)⟩
    case case26 r0 kvs r1 _ _ _ hx =>  -- { entries
      obtain ⟨T, rfl, hR⟩ := ih.pMapItems _ _ _ hx
      exact of_ok ⟨.p ['{'] :: T, rfl, R.own (Body.map kvs T hR)⟩
    case case31 t r0 hkw hid hp v x hv =>  -- a literal token
      exact of_ok ⟨[t], rfl, R.own (Body.litTok t v x (isLitTok_of_ok hv) hv)⟩

  pVecItems := by
    intro ts
    generalize hn : f + 1 = n
    fun_cases Reval.pVecItems o n ts <;> cases hn
    -- after the first branch `fun_cases` leaves the body as it is: put in what the inner calls returned
    all_goals try simp only [*]
    all_goals try no_ok
    case case2 => exact of_ok ⟨[_], rfl, RList.nil⟩  -- ]
    case case3 e r1 es r2 _ hes he =>  -- e , items
      obtain ⟨T, rfl, hR⟩ := ih.pIf _ _ _ he
      obtain ⟨Ts, rfl, hRs⟩ := ih.pVecItems _ _ _ hes
      exact of_ok ⟨T ++ comma :: Ts, by simp [comma], RList.cons e es T Ts hR hRs⟩
    case case5 e r1 _ he =>  -- e ]
      obtain ⟨T, rfl, hR⟩ := ih.pIf _ _ _ he
      exact of_ok ⟨T ++ [.p [']']], by simp, RList.last e T hR⟩

  pMapItems := by
    intro ts
    generalize hn : f + 1 = n
    fun_cases Reval.pMapItems o n ts <;> cases hn
    all_goals try no_ok
    case case2 => exact of_ok ⟨[_], rfl, RMap.nil⟩  -- }
    case case3 k r0 e r2 es r3 hes he =>  -- k : e , entries
      obtain ⟨T, rfl, hR⟩ := ih.pIf _ _ _ he
      obtain ⟨Ts, rfl, hRs⟩ := ih.pMapItems _ _ _ hes
      exact of_ok ⟨.ident k :: colon :: (T ++ comma :: Ts), by simp [comma, colon], RMap.cons k e es T Ts hR hRs⟩
    case case5 k r0 e r2 he =>  -- k : e }
      obtain ⟨T, rfl, hR⟩ := ih.pIf _ _ _ he
      exact of_ok ⟨.ident k :: colon :: (T ++ [.p ['}']]), by simp [colon], RMap.last k e T hR⟩

end

theorem sound_all (o : Oracle) : ∀ f, Sound o f
  | 0 => ⟨nofun, nofun, nofun, nofun, nofun, nofun, nofun, nofun, nofun, nofun, nofun⟩
  | f + 1 => sound_succ (sound_all o f)

/-- **whatever the parser accepts is derived by the table grammar**, at any fuel -/
theorem parse_sound {o : Oracle} {f : Nat} {T : List Tok} {e : Expr} (h : Reval.pIf o f T = .ok e []) : R o 0 e T := by
  obtain ⟨T', hT, hR⟩ := (sound_all o f).pIf T e [] h
  simp at hT; subst hT; exact hR

end Reval.G
