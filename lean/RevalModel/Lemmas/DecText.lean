/-
  Lemmas/DecText.lean — the text `Display` writes for a decimal (sign, integer digits, `scale` fraction digits) has the
  shape of a decimal literal's body, and `Decimal::from_str` reads it back for every decimal in normal form (96-bit
  mantissa, scale ≤ 28, no negative zero); with the round trips of Lemmas/Literals.lean: `litOK`.
-/

import RevalModel.Lemmas.LexScan
import RevalModel.Lemmas.Literals
import RevalModel.Spec.Grammar

namespace Reval.LexC

open Reval Reval.Lex Reval.Disp

/-- the digits `Display for Decimal` writes: integer part (non-empty) and fraction part (`scale` digits) -/
structure DecParts (d : Dec) (ip fp : Str) : Prop where
  ipDigits : ip.all isDigit = true
  fpDigits : fp.all isDigit = true
  ipNe : ip ≠ []
  fpLen : fp.length = d.scale
  value : Str.ofDigits (ip ++ fp) = d.mant
  body : showDec d = (if d.neg then ['-'] else []) ++ (if d.scale = 0 then ip else ip ++ '.' :: fp)

theorem decParts (d : Dec) : ∃ ip fp, DecParts d ip fp := by
  obtain ⟨hv, hall, hne⟩ := showNat_spec d.mant
  by_cases hs : d.scale = 0
  · refine ⟨showNat d.mant, [], hall, rfl, hne, by simp [hs], by simpa using hv, ?_⟩
    simp only [showDec, hs, if_true]
    cases d.neg <;> rfl
  · let padded := List.replicate (d.scale + 1 - (showNat d.mant).length) '0' ++ showNat d.mant
    have hpall : padded.all isDigit = true := by
      simp only [padded, List.all_append, List.all_replicate, Bool.and_eq_true]
      exact ⟨by split <;> simp [isDigit], hall⟩
    have hplen : d.scale + 1 ≤ padded.length := by simp only [padded, List.length_append, List.length_replicate]; omega
    refine ⟨padded.take (padded.length - d.scale), padded.drop (padded.length - d.scale), ?_, ?_, ?_, ?_, ?_, ?_⟩
    · simp only [List.all_eq_true] at hpall ⊢
      exact fun c hc => hpall c (List.mem_of_mem_take hc)
    · simp only [List.all_eq_true] at hpall ⊢
      exact fun c hc => hpall c (List.mem_of_mem_drop hc)
    · intro e
      have := congrArg List.length e
      rw [List.length_take, List.length_nil] at this; omega
    · rw [List.length_drop]; omega
    · rw [List.take_append_drop]
      simp only [padded]; rw [ofDigits_zeros]; exact hv
    · simp only [showDec, hs, if_false]
      cases d.neg <;> rfl

theorem decBody_showDec (d : Dec) : DecBody (showDec d) := by
  obtain ⟨ip, fp, hp⟩ := decParts d
  refine ⟨if d.neg then ['-'] else [], _, hp.body, by cases d.neg <;> simp [IsSign], ?_⟩
  split
  · exact .int ip hp.ipDigits hp.ipNe
  · exact .frac ip fp hp.ipDigits hp.fpDigits (fun e => by have := hp.fpLen; rw [e] at this; exact ‹¬ d.scale = 0› this.symm)

theorem splitNumber_showDec (d : Dec) : Lit.splitNumber (showDec d) = (d.neg, d.mant, d.scale, 0) := by
  obtain ⟨ip, fp, hp⟩ := decParts d
  obtain ⟨a, ip', rfl⟩ := List.exists_cons_of_ne_nil hp.ipNe
  obtain ⟨hpl, hm⟩ := digit_nosign (List.all_eq_true.mp hp.ipDigits a List.mem_cons_self)
  have tw := takeWhile_append_stop isDigit (a :: ip') [] hp.ipDigits Hd.nil
  have tw1 := takeWhile_append_stop isDigit (a :: ip') ('.' :: fp) hp.ipDigits (Hd.cons (by decide))
  have tw2 := takeWhile_append_stop isDigit fp [] hp.fpDigits Hd.nil
  have hv := hp.value
  simp only [List.append_nil, List.cons_append] at tw tw1 tw2 hv
  rw [hp.body]
  -- `simp` takes the arm of `splitNumber`'s sign match from the leading `-`, or from `hm`, `hpl`
  by_cases hs : d.scale = 0
  · have hfp : fp = [] := List.eq_nil_of_length_eq_zero (hs ▸ hp.fpLen)
    subst hfp
    simp only [List.append_nil] at hv
    cases d.neg <;> simp [Lit.splitNumber, hm, hpl, hs, tw.1, tw.2, hv]
  · cases d.neg <;> simp [Lit.splitNumber, hm, hpl, hs, tw1.1, tw1.2, tw2.1, tw2.2, hv, hp.fpLen]

/-- a decimal in the normal form the parser produces -/
def DecWF (d : Dec) : Prop := d.mant ≤ Dec.maxMant ∧ d.scale ≤ 28 ∧ (d.neg = true → d.mant ≠ 0)

theorem parseDecimal_showDec (d : Dec) (h : DecWF d) : Lit.parseDecimal (showDec d) = some d := by
  obtain ⟨h1, h2, h3⟩ := h
  simp only [Lit.parseDecimal, splitNumber_showDec, h1, h2, decide_true, Bool.and_self, if_true]
  cases d with
  | mk neg mant scale =>
    simp only [Option.some.injEq, Dec.mk.injEq, and_true]
    cases neg
    · rfl
    · simp only [Bool.true_and, bne_iff_ne, ne_eq]
      simpa using h3 rfl

theorem dec_token_value (o : Oracle) (d : Dec) (h : DecWF d) : Lit.ofTok o (.dec ('d' :: showDec d)) = .ok (.dec d) [] := by
  simp [Lit.ofTok, Lit.sliceFrom, parseDecimal_showDec d h]

/-- which leaves' printed token converts back: every integer of the 128-bit range, every decimal in normal form, every
    string, the booleans and none (floats: the library's text, `C16.FloatText`) -/
theorem litOK (o : Oracle) (sf : F64 → Str) : ∀ v : Value,
    (match v with
     | .int n => I128.inRange n = true
     | .dec d => DecWF d
     | .str _ | .bool _ | .none => True
     | _ => False) → G.LitOK o sf v
  | .int n, h => int_token_value o n h
  | .dec d, h => dec_token_value o d h
  | .str s, _ => str_token_value o s
  | .bool _, _ => trivial
  | .none, _ => trivial

end Reval.LexC

namespace Reval.PP
open Reval.LexC

/-- converse of `parseDecimal_showDec` -/
theorem parseDecimal_wf {b : Str} {d : Dec} (h : Lit.parseDecimal b = some d) : DecWF d := by
  unfold Lit.parseDecimal at h
  simp only [] at h
  split at h
  · rename_i hc
    simp only [Bool.and_eq_true, decide_eq_true_eq] at hc
    cases h
    refine ⟨hc.2, hc.1, ?_⟩
    simp only [Bool.and_eq_true, bne_iff_ne, ne_eq]
    exact fun h => h.2
  · cases h

end Reval.PP
