/-
  Prim/Basic.lean — the value domain of the model.

  `Value` mirrors `reval::Value` (10 variants).  Strings are `List Char` everywhere.
  Floats are carried by their IEEE-754 bit pattern (all NaNs identified with one pattern),
  decimals by (sign, 96-bit mantissa, scale), date-times and durations by a single integer
  number of nanoseconds (since the Unix epoch / signed length).
  Import-free on purpose: the protocol driver links against this file.
-/
namespace Reval

abbrev Str := List Char

/-- IEEE-754 binary64 by bit pattern.  Invariant kept by every model operation: a NaN is `F64.nan`. -/
structure F64 where
  bits : UInt64
deriving DecidableEq, Repr, Inhabited

/-- `rust_decimal::Decimal`: sign, 96-bit mantissa, scale 0..28. -/
structure Dec where
  neg : Bool
  mant : Nat
  scale : Nat
deriving DecidableEq, Repr, Inhabited

inductive Value where
  | str (s : Str)
  | int (i : Int)
  | float (f : F64)
  | dec (d : Dec)
  | bool (b : Bool)
  | dateTime (ns : Int)
  | duration (ns : Int)
  | vec (xs : List Value)
  | map (kvs : List (Str × Value))
  | none
deriving Repr, Inhabited

/-- The ten value types. -/
inductive Ty where
  | str | int | float | dec | bool | dateTime | duration | vec | map | none
deriving DecidableEq, Repr, Inhabited

def Value.ty : Value → Ty
  | .str _ => .str | .int _ => .int | .float _ => .float | .dec _ => .dec | .bool _ => .bool
  | .dateTime _ => .dateTime | .duration _ => .duration | .vec _ => .vec | .map _ => .map | .none => .none

def Ty.all : List Ty := [.str, .int, .float, .dec, .bool, .dateTime, .duration, .vec, .map, .none]

theorem Ty.mem_all (t : Ty) : t ∈ Ty.all := by cases t <;> decide

/-! ### Decidable structural equality (the `deriving` handler refuses nested inductives) -/

mutual
def Value.beq : Value → Value → Bool
  | .str a, .str b => a == b
  | .int a, .int b => a == b
  | .float a, .float b => a == b
  | .dec a, .dec b => a == b
  | .bool a, .bool b => a == b
  | .dateTime a, .dateTime b => a == b
  | .duration a, .duration b => a == b
  | .vec a, .vec b => Value.beqList a b
  | .map a, .map b => Value.beqFields a b
  | .none, .none => true
  | _, _ => false
def Value.beqList : List Value → List Value → Bool
  | [], [] => true
  | a :: as, b :: bs => Value.beq a b && Value.beqList as bs
  | _, _ => false
def Value.beqFields : List (Str × Value) → List (Str × Value) → Bool
  | [], [] => true
  | (k, a) :: as, (l, b) :: bs => k == l && Value.beq a b && Value.beqFields as bs
  | _, _ => false
end

mutual
theorem Value.beq_eq : ∀ (a b : Value), Value.beq a b = true ↔ a = b
  | .str a, b => by cases b <;> simp [Value.beq]
  | .int a, b => by cases b <;> simp [Value.beq]
  | .float a, b => by cases b <;> simp [Value.beq]
  | .dec a, b => by cases b <;> simp [Value.beq]
  | .bool a, b => by cases b <;> simp [Value.beq]
  | .dateTime a, b => by cases b <;> simp [Value.beq]
  | .duration a, b => by cases b <;> simp [Value.beq]
  | .vec a, b => by
      cases b <;> simp [Value.beq]
      exact Value.beqList_eq a _
  | .map a, b => by
      cases b <;> simp [Value.beq]
      exact Value.beqFields_eq a _
  | .none, b => by cases b <;> simp [Value.beq]
theorem Value.beqList_eq : ∀ (a b : List Value), Value.beqList a b = true ↔ a = b
  | [], [] => by simp [Value.beqList]
  | [], _ :: _ => by simp [Value.beqList]
  | _ :: _, [] => by simp [Value.beqList]
  | a :: as, b :: bs => by
      simp [Value.beqList, Value.beq_eq a b, Value.beqList_eq as bs]
theorem Value.beqFields_eq : ∀ (a b : List (Str × Value)), Value.beqFields a b = true ↔ a = b
  | [], [] => by simp [Value.beqFields]
  | [], _ :: _ => by simp [Value.beqFields]
  | _ :: _, [] => by simp [Value.beqFields]
  | (k, a) :: as, (l, b) :: bs => by
      simp [Value.beqFields, Value.beq_eq a b, Value.beqFields_eq as bs, and_assoc]
end

instance : DecidableEq Value := fun a b =>
  if h : Value.beq a b = true then isTrue ((Value.beq_eq a b).1 h)
  else isFalse (fun e => h ((Value.beq_eq a b).2 e))

instance : BEq Value := ⟨Value.beq⟩

/-! ### Errors and outcomes -/

/-- `reval::Error`, with the payloads the properties speak about (names, offending values) and
    without reval's message texts. -/
inductive Err where
  | invalidType
  | invalidCast (v : Value)
  | outOfBounds (v : Value)
  | divByZero
  | unknownRef (n : Str)
  | invalidSymbol (n : Str)
  | unknownFn (n : Str)
  | userFn (f : Str) (msg : Str)
  | numericOverflow
  | unexpectedValue (v : Value)
  | ser (msg : Str)
  | invalidFunctionName (n : Str)
  | duplicateFunctionName (n : Str)
  | duplicateRuleName (n : Str)
deriving DecidableEq, Repr, Inhabited

/-- Where the Rust code could panic. -/
inductive Site where
  | overflow | unwrap | slice | todo | expect
deriving DecidableEq, Repr, Inhabited

/-- Library primitives the model does not compute itself (answered by the library, never by reval). -/
inductive FOp where
  | decAdd | decSub | decMul | decDiv | decRem | decFloor | decRound | decFract
  | decToF64 | f64ToDec | strToDec | strToF64 | strToDateTime | strUpper | strLower
  | f64Show | xidStart | xidContinue
deriving DecidableEq, Repr, Inhabited

/-- Outcome of a modelled operation: a result, an error value, a panic (with its site), or
    `frontier`: the model declines to predict (a library primitive outside the modelled region). -/
inductive Res (α : Type) where
  | ok (a : α)
  | err (e : Err)
  | panic (s : Site)
  | frontier (op : FOp) (args : List Value)
deriving Repr, Inhabited

instance {α} [DecidableEq α] : DecidableEq (Res α) := fun a b => by
  cases a <;> cases b <;> first
    | (apply isFalse; intro h; cases h; done)
    | skip
  · rename_i x y; exact if h : x = y then isTrue (by rw [h]) else isFalse (fun e => by cases e; exact h rfl)
  · rename_i x y; exact if h : x = y then isTrue (by rw [h]) else isFalse (fun e => by cases e; exact h rfl)
  · rename_i x y; exact if h : x = y then isTrue (by rw [h]) else isFalse (fun e => by cases e; exact h rfl)
  · rename_i o1 a1 o2 a2
    exact if h : o1 = o2 ∧ a1 = a2 then isTrue (by rw [h.1, h.2])
      else isFalse (fun e => by cases e; exact h ⟨rfl, rfl⟩)

namespace Res
def isPanic {α} : Res α → Bool
  | .panic _ => true
  | _ => false
def isOk {α} : Res α → Bool
  | .ok _ => true
  | _ => false
def isErr {α} : Res α → Bool
  | .err _ => true
  | _ => false
def isFrontier {α} : Res α → Bool
  | .frontier _ _ => true
  | _ => false
@[simp] theorem isPanic_ok {α} (a : α) : (Res.ok a).isPanic = false := rfl
@[simp] theorem isPanic_err {α} (e : Err) : (Res.err e : Res α).isPanic = false := rfl
@[simp] theorem isPanic_frontier {α} (o : FOp) (a : List Value) : (Res.frontier o a : Res α).isPanic = false := rfl
@[simp] theorem isPanic_panic {α} (s : Site) : (Res.panic s : Res α).isPanic = true := rfl

def bind {α β} (r : Res α) (f : α → Res β) : Res β :=
  match r with
  | .ok a => f a
  | .err e => .err e
  | .panic s => .panic s
  | .frontier o a => .frontier o a

def map {α β} (f : α → β) (r : Res α) : Res β :=
  match r with
  | .ok a => .ok (f a)
  | .err e => .err e
  | .panic s => .panic s
  | .frontier o a => .frontier o a

/-- change the type of a non-ok outcome -/
def cast {α β} (r : Res α) (d : Res β) : Res β :=
  match r with
  | .ok _ => d
  | .err e => .err e
  | .panic s => .panic s
  | .frontier o a => .frontier o a
end Res

/-- The oracle: answers of library primitives supplied from outside (by the harness, calling the
    library directly).  `none` = not supplied; `some none` = the primitive fails / returns `None`. -/
abbrev Oracle := FOp → List Value → Option (Option Value)

def Oracle.empty : Oracle := fun _ _ => none

/-- Ask the oracle; an unanswered query is a `frontier` outcome, a failing primitive is `onFail`. -/
def Oracle.ask (o : Oracle) (op : FOp) (args : List Value) (onFail : Res Value) : Res Value :=
  match o op args with
  | some (some v) => .ok v
  | some none => onFail
  | none => .frontier op args

/-! ### Keys, sorted association lists (`BTreeMap<String, _>`) -/

/-- Lexicographic order on strings by code point = Rust's `Ord for String` (byte-wise on UTF-8,
    which preserves code-point order). -/
def Str.lt : Str → Str → Bool
  | [], [] => false
  | [], _ :: _ => true
  | _ :: _, [] => false
  | a :: as, b :: bs => if a.toNat < b.toNat then true else if b.toNat < a.toNat then false else Str.lt as bs

def AList (α : Type) := List (Str × α)

/-- `BTreeMap::get` -/
def lookup {α} : List (Str × α) → Str → Option α
  | [], _ => none
  | (k, v) :: rest, n => if k = n then some v else lookup rest n

/-- `BTreeMap::insert` on a key-sorted list: replace an equal key, otherwise insert in order. -/
def insertSorted {α} (k : Str) (v : α) : List (Str × α) → List (Str × α)
  | [] => [(k, v)]
  | (k', v') :: rest =>
    if k = k' then (k, v) :: rest
    else if Str.lt k k' then (k, v) :: (k', v') :: rest
    else (k', v') :: insertSorted k v rest

/-- keys strictly increasing -/
def SortedKeys {α} : List (Str × α) → Prop
  | [] => True
  | [_] => True
  | (k₁, _) :: (k₂, v₂) :: rest => Str.lt k₁ k₂ = true ∧ SortedKeys ((k₂, v₂) :: rest)

end Reval
